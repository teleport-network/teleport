import TeleportModel.Proofs.C04
import TeleportModel.Proofs.C19Tables
/-
C04 — discharge of the round-trip hypothesis of `send_commitment_is_hash_of_emitted` by the C19 ABI/JSON theorems over
the GENERATED tables (`Generated/AbiTuples`: tuple layout of `TuplePacketData` from evm.go, JSON schema of
`types.Packet` from packet.pb.go). A renamed tuple component or JSON tag breaks `TM.C19.packet_tagsMatch`
(`by decide`), and with it this module.
-/
namespace TM.Send
open TM TM.Abi TM.Json TM.Generated

/-- what the hook and `SendPacket` do with an emitted payload: `ABIDecode` into the struct, `ABIPack` of the struct -/
def abiCodec : Codec :=
  { reenc := fun raw =>
      (decodeStruct AbiTuples.tuplePacketData AbiTuples.packetSchema raw).bind
        (packStruct AbiTuples.tuplePacketData AbiTuples.packetSchema) }

/-- every payload the packet contract emits — the canonical ABI encoding `raw` of some packet `sv` with valid UTF-8
strings — survives decode-then-encode unchanged -/
theorem abi_roundtrip (sv : List Val) (raw : Bytes)
    (hty : sv.map Val.ty = AbiTuples.packetSchema.map (·.ty)) (hu : ∀ v ∈ sv, strOk v = true)
    (hp : packStruct AbiTuples.tuplePacketData AbiTuples.packetSchema sv = some raw) (hsz : raw.length < 2 ^ 256) :
    RoundTrip abiCodec raw := by
  show (decodeStruct AbiTuples.tuplePacketData AbiTuples.packetSchema raw).bind _ = some raw
  -- `Option.bind_some` by name: left to the unifier, `(some sv).bind f = f sv` is decided by unfolding `packStruct`
  rw [TM.C19.packet_decode_encode sv raw hty hu hp hsz, Option.bind_some]
  exact hp

/-- **The commitment of a successful send is sha256 of the bytes in the contract's `PacketSent` log**, for the ABI
tuple / JSON schema the repository has now (no hypothesis about the codec left). -/
theorem send_commitment_is_hash_of_emitted_abi {env : Env} {c c' : Chain} {p : Packet} (sv : List Val) (raw : Bytes)
    (hty : sv.map Val.ty = AbiTuples.packetSchema.map (·.ty)) (hu : ∀ v ∈ sv, strOk v = true)
    (hp : packStruct AbiTuples.tuplePacketData AbiTuples.packetSchema sv = some raw) (hsz : raw.length < 2 ^ 256)
    (hdec : abiCodec.reenc raw = some p.bytes) (h : sendPacket env c p = .ok c') :
    c'.commits (p.dst, p.seq) = some (env.sha256 raw) :=
  send_commitment_is_hash_of_emitted abiCodec raw hdec (abi_roundtrip sv raw hty hu hp hsz) h

end TM.Send
