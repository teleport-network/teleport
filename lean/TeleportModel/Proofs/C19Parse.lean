import TeleportModel.Model.Host
import TeleportModel.Generated.HostKeys
import TeleportModel.Generated.Parsers
import TeleportModel.Proofs.C19Host
import TeleportModel.Proofs.C19Cons
/-
C19 — builder / parser pairs. Every function that reads a key or a text form back is transcribed by tools/gofacts
into a small record (separator, positions, slice bounds, decoder, number base) whose interpreter lives in Model/Host.lean;
here each interpreter is proved to invert the builder template it is paired with, and the regenerated records / templates
are shown (by evaluation) to be of the shape the round trip needs. A changed formatting verb (Itoa(int(..)) instead of %d),
a TrimRight, a dropped revision or a moved slice changes the record or makes the translator refuse the source.
-/
namespace TM.C19
open TM TM.Host TM.Generated

def heightStringShape : Template := { params := [.height], segs := [.decRev 0, .lit [45], .decHeight 0] }
def parseHeightShape : HeightParser := { sep := 45, parts := 2, revIdx := 0, heightIdx := 1, base := 10, bits := 64 }

theorem render_heightString (r h : UInt64) :
    render heightStringShape [.h r h] = some (toDec r ++ 45 :: toDec h) := by
  simp [render, renderSegs, renderSeg, Arg.ty, heightStringShape]

theorem parseHeightP_text (r h : UInt64) : parseHeightP parseHeightShape (toDec r ++ 45 :: toDec h) = some (r, h) := by
  unfold parseHeightP
  have hs : splitOn 45 (toDec r ++ 45 :: toDec h) = [toDec r, toDec h] := by
    rw [splitOn_append 45 _ _ (toDec_noByte r 45 (by decide)), splitOn_noSep 45 _ (toDec_noByte h 45 (by decide))]
  simp [parseHeightShape, hs, parseUintP, dec_roundtrip]

/-- **ParseHeight (Height.String h) = h** for ALL uint64 revision numbers and heights -/
theorem height_text_roundtrip (T : Template) (p : HeightParser) (r h : UInt64) (s : Bytes)
    (hT : T = heightStringShape) (hp : p = parseHeightShape) (hs : render T [.h r h] = some s) :
    parseHeightP p s = some (r, h) := by
  subst hT; subst hp
  rw [render_heightString] at hs; cases hs
  exact parseHeightP_text r h

/-- the `%s` of a Height inside other templates (segment `.heightStr`) is Height.String -/
theorem heightStr_is_heightString (r h : UInt64) :
    renderSeg [.h r h] (.heightStr 0) = render heightStringShape [.h r h] := by
  simp [render_heightString, renderSeg]

theorem decodeBE_be8 (d : BEDecoder) (n : UInt64) : decodeBE d (be8 n) = .ok n := by
  cases d <;> simp [decodeBE, bigEndianToUint64, be8_length, take_be8_self, ofBE_be8]

/-- **GetHeightFromIterationKey (key built for h) = h** for every parser record of the transcribed shape and the builder
    template `<skip> ++ 8 bytes revision ++ 8 bytes height` — ALL uint64 revisions and heights -/
theorem iterkey_height_roundtrip (p : IterKeyParser) (T : Template) (r h : UInt64) (k : Bytes)
    (hT : T = { params := [.height], segs := [.lit p.skip, .revBE 0, .heightBE 0] })
    (h0 : p.revLo = 0) (h1 : p.revHi = 8) (h2 : p.heightLo = 8)
    (hk : render T [.h r h] = some k) : heightFromIterKey p k = .ok (r, h) := by
  rw [hT, render_heightKey] at hk
  cases hk
  unfold heightFromIterKey
  rw [h0, h1, h2]
  simp [be8_length, decodeBE_be8]

def iterateHashesShape : HashKeyParser := { sep := 47, srcIdx := 1, dstIdx := 2, seqFromEnd := 1, base := 10, bits := 64 }
def parsePathShape : PathParser := { sep := 47, minParts := 3, srcIdx := 1, dstIdx := 2 }

/-- the interpreter of the regenerated `iterateHashes` record is the parser all packet-key theorems are about -/
theorem parseHashesKeyP_eq (key : Bytes) : parseHashesKeyP iterateHashesShape key = parseHashesKey key := by
  have hl : ¬ (splitOn slash key).length < 1 := Nat.not_lt.mpr (List.length_pos_iff.mpr (splitOn_ne_nil slash key))
  unfold parseHashesKeyP parseHashesKey
  simp only [iterateHashesShape, show (47 : UInt8) = slash from rfl, parseUintP, and_self, if_true, hl, if_false,
    List.getD_eq_getElem?_getD, List.getLastD_eq_getLast?, List.getLast?_eq_getElem?]

/-- **iterateHashes (key built for (src, dst, seq)) = (src, dst, seq)** — '/'-free names (ending in ANY character,
    the letters of "sequences" included) and ALL uint64 sequences -/
theorem hashkey_parse_roundtrip (p : HashKeyParser) (T : Template) (p0 m0 a b k : Bytes) (n : UInt64)
    (hp : p = iterateHashesShape) (hT : PacketShape T p0 m0)
    (ha : slash ∉ a) (hb : slash ∉ b) (hk : render T [.s a, .s b, .n n] = some k) :
    parseHashesKeyP p k = .ok (a, b, n) := by
  subst hp
  rw [parseHashesKeyP_eq]
  exact packet_key_parses T p0 m0 a b k n hT ha hb hk

theorem parsePathP_eq (path : Bytes) : parsePathP parsePathShape path = parsePath path := by
  unfold parsePathP parsePath
  simp only [parsePathShape, show (47 : UInt8) = slash from rfl]
  rcases splitOn slash path with _ | ⟨a, _ | ⟨b, _ | ⟨c, r⟩⟩⟩
  · rfl
  · rfl
  · rfl
  · exact if_neg (Nat.not_lt.mpr (Nat.le_add_left 3 r.length))

/-- host.ParsePath (next-sequence key of (src, dst)) = (src, dst) -/
theorem path_parse_roundtrip (p : PathParser) (T : Template) (p0 a b k : Bytes) (hp : p = parsePathShape)
    (hT : PairShape T p0) (ha : slash ∉ a) (hb : slash ∉ b) (hk : render T [.s a, .s b] = some k) :
    parsePathP p k = .ok (a, b) := by
  subst hp
  rw [parsePathP_eq]
  exact pair_key_parses T p0 a b k hT ha hb hk

/-! ### bsc recent-signer keys: "<recentSingers>/<height as text>" -/

def SignerKeyShape (T : Template) (pre : Bytes) : Prop :=
  T = { params := [.height], segs := [.lit (pre ++ [slash]), .heightStr 0] } ∧ slash ∉ pre

instance (T : Template) (pre : Bytes) : Decidable (SignerKeyShape T pre) := by unfold SignerKeyShape; infer_instance

/-- **the height read from a recent-signer key is the height it was written for** (GetRecentSigners, DeleteAllSigner),
    for ALL uint64 revision numbers and heights -/
theorem signer_key_roundtrip (T : Template) (pre : Bytes) (sp : SignerKeyParser) (hp : HeightParser) (r h : UInt64)
    (k : Bytes) (hT : SignerKeyShape T pre) (hs : sp.sep = slash) (hi : sp.heightIdx = 1) (hhp : hp = parseHeightShape)
    (hk : render T [.h r h] = some k) : parseSignerKey sp hp k = .ok (r, h) := by
  rw [hT.1] at hk
  simp [render, renderSegs, renderSeg, Arg.ty] at hk
  subst hk; subst hhp
  have hno : slash ∉ toDec r ++ 45 :: toDec h := by
    simp only [List.mem_append, List.mem_cons, not_or]
    exact ⟨toDec_noSlash r, by decide, toDec_noSlash h⟩
  unfold parseSignerKey
  rw [hs, hi, splitOn_append slash pre _ hT.2, splitOn_noSep slash _ hno]
  simp [parseHeightP_text]

theorem heightString_shape : Parsers.heightString = heightStringShape := rfl
theorem parseHeight_shape : Parsers.parseHeight = parseHeightShape := rfl
theorem iterateHashes_shape : Parsers.iterateHashes = iterateHashesShape := rfl
theorem parsePath_shape : Parsers.parsePath = parsePathShape := rfl

/-- a `GetHeightFromIterationKey` record fits the builder template whose keys it reads -/
def IterKeyFits (p : IterKeyParser) (T : Template) : Prop :=
  T = { params := [.height], segs := [.lit p.skip, .revBE 0, .heightBE 0] } ∧ p.revLo = 0 ∧ p.revHi = 8 ∧ p.heightLo = 8

instance (p : IterKeyParser) (T : Template) : Decidable (IterKeyFits p T) := by unfold IterKeyFits; infer_instance

theorem tmIterKey_fits : IterKeyFits Parsers.tmHeightFromIterKey HostKeys.tm_iterationKey := ⟨rfl, rfl, rfl, rfl⟩
theorem bscIterKey_fits : IterKeyFits Parsers.bscHeightFromIterKey HostKeys.consensusStateKey := ⟨rfl, rfl, rfl, rfl⟩
theorem ethIterKey_fits : IterKeyFits Parsers.ethHeightFromIterKey HostKeys.consensusStateKey := ⟨rfl, rfl, rfl, rfl⟩

theorem signerKey_shape : SignerKeyShape HostKeys.bsc_keyRecentSinger GC.recentSignersPrefix := ⟨rfl, by decide +kernel⟩
/-- SetSigner and DeleteSigner address the same key -/
theorem signerKey_delete_same : HostKeys.bsc_deleteSignerKey = HostKeys.bsc_keyRecentSinger := rfl
theorem signerKeyParsers_wf : ∀ sp ∈ Parsers.signerKeyParsers, sp.sep = slash ∧ sp.heightIdx = 1 := by decide +kernel

theorem generated_height_text_roundtrip (r h : UInt64) (s : Bytes) (hs : render Parsers.heightString [.h r h] = some s) :
    parseHeightP Parsers.parseHeight s = some (r, h) :=
  height_text_roundtrip _ _ r h s heightString_shape parseHeight_shape hs

theorem generated_tm_iterkey_roundtrip (r h : UInt64) (k : Bytes) (hk : render HostKeys.tm_iterationKey [.h r h] = some k) :
    heightFromIterKey Parsers.tmHeightFromIterKey k = .ok (r, h) :=
  iterkey_height_roundtrip _ _ r h k tmIterKey_fits.1 tmIterKey_fits.2.1 tmIterKey_fits.2.2.1 tmIterKey_fits.2.2.2 hk

theorem generated_bsc_iterkey_roundtrip (r h : UInt64) (k : Bytes) (hk : render HostKeys.consensusStateKey [.h r h] = some k) :
    heightFromIterKey Parsers.bscHeightFromIterKey k = .ok (r, h) :=
  iterkey_height_roundtrip _ _ r h k bscIterKey_fits.1 bscIterKey_fits.2.1 bscIterKey_fits.2.2.1 bscIterKey_fits.2.2.2 hk

theorem generated_eth_iterkey_roundtrip (r h : UInt64) (k : Bytes) (hk : render HostKeys.consensusStateKey [.h r h] = some k) :
    heightFromIterKey Parsers.ethHeightFromIterKey k = .ok (r, h) :=
  iterkey_height_roundtrip _ _ r h k ethIterKey_fits.1 ethIterKey_fits.2.1 ethIterKey_fits.2.2.1 ethIterKey_fits.2.2.2 hk

theorem generated_hashkey_roundtrip (a b k : Bytes) (n : UInt64) (ha : slash ∉ a) (hb : slash ∉ b)
    (hk : render HostKeys.packetCommitmentKey [.s a, .s b, .n n] = some k) :
    parseHashesKeyP Parsers.iterateHashes k = .ok (a, b, n) :=
  hashkey_parse_roundtrip _ _ _ _ a b k n iterateHashes_shape commitmentKey_shape ha hb hk

theorem generated_signer_key_roundtrip (sp : SignerKeyParser) (hsp : sp ∈ Parsers.signerKeyParsers) (r h : UInt64) (k : Bytes)
    (hk : render HostKeys.bsc_keyRecentSinger [.h r h] = some k) :
    parseSignerKey sp Parsers.parseHeight k = .ok (r, h) :=
  signer_key_roundtrip _ _ sp _ r h k signerKey_shape (signerKeyParsers_wf sp hsp).1 (signerKeyParsers_wf sp hsp).2 parseHeight_shape hk

/-! ### defects as witnesses -/

/-- Itoa(int(2^63)) prints "-9223372036854775808": a text with two '-' has three parts and does not parse -/
theorem negative_text_does_not_parse :
    parseHeightP parseHeightShape ([48, 45] ++ (45 :: toDec 9223372036854775808)) = none := by decide +kernel

/-- a parser that ignores the revision half reads (3, 7) back as (0, 7) -/
theorem dropped_revision_misreads :
    heightFromIterKey { skip := [], revLo := 8, revHi := 8, heightLo := 8, decoder := .sdkBE } (be8 3 ++ be8 7) = .ok (0, 7) := by
  decide +kernel

end TM.C19
