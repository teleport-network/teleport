import TeleportModel.Lemmas.Xibc
/-
C01 — exactly-once delivery per (source, destination, sequence).

All statements are about *receipt keys* `receipts/{src}/{dst}/sequences/{seq}` — the real store key of the
triple. Two messages with the same (src,dst,seq) have the same key (`recvKeyOf_triple`), so every statement
"per key" is a statement "per triple"; no injectivity of the key template is needed.
They hold for every `Env` (any decoder, hash, proof verifier), every callback outcome (a field of the message), every start state and every
interleaving of every kind of message (induction over the message list).
-/
namespace TM.Xibc

/-- the receipt key addressed by a receive message (as decoded by the real decoder `env.decodePacket`) -/
def recvKeyOf (env : Env) : Msg → Option Bytes
  | .recvPacket packet _ _ _ _ => some (receiptKey (env.decodePacket packet).1)
  | _ => none

/-- same (src,dst,seq) ⇒ same receipt key, whatever the payload / proof / height / signer / callback outcome -/
theorem recvKeyOf_triple (env : Env) (pk pk' pf pf' : Bytes) (h h' : Height) (s s' : Bytes) (cb cb' : Callback)
    (hs : (env.decodePacket pk).1.src = (env.decodePacket pk').1.src)
    (hd : (env.decodePacket pk).1.dst = (env.decodePacket pk').1.dst)
    (hq : (env.decodePacket pk).1.seq = (env.decodePacket pk').1.seq) :
    recvKeyOf env (.recvPacket pk pf h s cb) = recvKeyOf env (.recvPacket pk' pf' h' s' cb') := by
  simp [recvKeyOf, receiptKey, hs, hd, hq]

/-- accepted receive of key `k` (one entry of a run, zipped with its result) -/
def acceptedRecvOf (env : Env) (k : Bytes) (x : Result × (UInt64 × Msg)) : Bool :=
  decide (x.1 = .ok) && decide (recvKeyOf env x.2.2 = some k)

theorem recvKeyOf_eq_some {env : Env} {m : Msg} {k : Bytes} (h : recvKeyOf env m = some k) :
    ∃ pk pf ht s cb, m = .recvPacket pk pf ht s cb ∧ receiptKey (env.decodePacket pk).1 = k := by
  unfold recvKeyOf at h
  split at h
  · exact ⟨_, _, _, _, _, rfl, Option.some.inj h⟩
  · cases h

/-- no delivery removes a receipt: only an accepted receive touches the receipts, and it adds its own key -/
theorem deliver_receipts_mono (env : Env) (k : Bytes) (c : Chain) (now : UInt64) (m : Msg)
    (h : c.receipts.has k = true) : (deliver env c now m).1.receipts.has k = true := by
  cases deliver_step env c now m with
  | rejected hc _ => rw [hc]; exact h
  | recv _ _ _ _ _ _ _ eff => rw [eff.receipts, Tab.has_set, h, Bool.or_true]
  | ack _ _ _ _ _ _ _ _ eff => rw [eff.receipts]; exact h
  | send _ _ _ _ _ hc => rw [hc]; exact h
  | admin _ _ _ hc => rw [hc]; exact h

/-- **recv_accept_iff_fresh** (one direction, despite the name): an accepted receive found no receipt under its key
and leaves one behind. -/
theorem recv_accept_iff_fresh (env : Env) (c : Chain) (now : UInt64) (pk pf : Bytes) (h : Height) (s : Bytes)
    (cb : Callback) (hok : (deliver env c now (.recvPacket pk pf h s cb)).2 = .ok) :
    c.receipts.has (receiptKey (env.decodePacket pk).1) = false ∧
    (deliver env c now (.recvPacket pk pf h s cb)).1.receipts.has (receiptKey (env.decodePacket pk).1) = true := by
  have eff := handle_recv_effect (deliver_ok_handle hok)
  refine ⟨eff.fresh, ?_⟩
  rw [eff.receipts, Tab.has_set, decide_eq_true rfl]; rfl

/-- a receive whose receipt exists is rejected and changes nothing — whatever else the message contains -/
theorem recv_rejected_of_receipt {env : Env} {c : Chain} {now : UInt64} {m : Msg} {k : Bytes}
    (hm : recvKeyOf env m = some k) (hk : c.receipts.has k = true) : deliver env c now m = (c, .err) := by
  obtain ⟨pk, pf, ht, s, cb, rfl, rfl⟩ := recvKeyOf_eq_some hm
  refine deliver_rejected fun hok => ?_
  have hf := (handle_recv_effect (deliver_ok_handle hok)).fresh
  rw [hk] at hf; cases hf

/-- **receipts_monotone**: a receipt is never removed, by any message of any history. -/
theorem receipts_monotone (env : Env) (c : Chain) (ms : List (UInt64 × Msg)) (k : Bytes)
    (h : c.receipts.has k = true) : (run env c ms).1.receipts.has k = true :=
  run_invariant (fun c => c.receipts.has k = true) (deliver_receipts_mono env k) c ms h

/-- number of accepted receives of key `k` in a run -/
def acceptedCount (env : Env) (k : Bytes) (c : Chain) (ms : List (UInt64 × Msg)) : Nat :=
  (((run env c ms).2.zip ms).filter (acceptedRecvOf env k)).length

/-- The potential "1 while the receipt of `k` is absent" pays for every accepted receive of `k`: such a receive finds
the receipt absent and leaves it present, and no delivery removes it. -/
theorem deliver_accepted (env : Env) (k : Bytes) (c : Chain) (now : UInt64) (m : Msg) :
    (acceptedRecvOf env k ((deliver env c now m).2, (now, m))).toNat + (!(deliver env c now m).1.receipts.has k).toNat ≤
      (!c.receipts.has k).toNat := by
  cases hacc : acceptedRecvOf env k ((deliver env c now m).2, (now, m)) with
  | true =>
    simp only [acceptedRecvOf, Bool.and_eq_true, decide_eq_true_eq] at hacc
    obtain ⟨pk, pf, ht, s, cb, rfl, rfl⟩ := recvKeyOf_eq_some hacc.2
    obtain ⟨hbefore, hafter⟩ := recv_accept_iff_fresh env c now pk pf ht s cb hacc.1
    rw [hbefore, hafter]
    exact Nat.le_refl 1
  | false =>
    rw [Bool.toNat_false, Nat.zero_add]
    cases hb : c.receipts.has k with
    | true => rw [deliver_receipts_mono env k c now m hb]; exact Nat.le_refl 0
    | false => exact Bool.toNat_le _

theorem acceptedCount_potential (env : Env) (k : Bytes) (c : Chain) (ms : List (UInt64 × Msg)) :
    acceptedCount env k c ms + (!(run env c ms).1.receipts.has k).toNat ≤ (!c.receipts.has k).toNat := by
  have := run_potential (acceptedRecvOf env k) (fun _ => false) (fun c => (!c.receipts.has k).toNat)
    (deliver_accepted env k) c ms
  rwa [filter_never] at this

theorem acceptedCount_bound (env : Env) (k : Bytes) (c : Chain) (ms : List (UInt64 × Msg)) :
    acceptedCount env k c ms ≤ (!c.receipts.has k).toNat :=
  Nat.le_trans (Nat.le_add_right _ _) (acceptedCount_potential env k c ms)

/-- **recv_at_most_once**: in any history from any state, at most one receive per key is accepted (none if the
receipt already exists). -/
theorem recv_at_most_once (env : Env) (c : Chain) (ms : List (UInt64 × Msg)) (k : Bytes) :
    (((run env c ms).2.zip ms).filter (acceptedRecvOf env k)).length ≤ 1 :=
  Nat.le_trans (acceptedCount_bound env k c ms) (Bool.toNat_le _)

theorem receipt_after_accept {env : Env} {c : Chain} {ms : List (UInt64 × Msg)} {k : Bytes}
    (hpos : 0 < acceptedCount env k c ms) : (run env c ms).1.receipts.has k = true := by
  have h1 := acceptedCount_potential env k c ms
  have h2 := Bool.toNat_le (!c.receipts.has k)
  cases hk : (run env c ms).1.receipts.has k with
  | true => rfl
  | false =>
    -- the potential is still 1 after the run and was at most 1 before it: nothing can have been accepted
    rw [hk] at h1
    have h1' : acceptedCount env k c ms + 1 ≤ (!c.receipts.has k).toNat := h1
    omega

/-- **replay_rejected_unchanged**: once a receive of `k` was accepted somewhere in the history `ms`, every later
message addressing the same key — byte-identical, re-encoded, with another payload, proof, height, signer or
callback outcome — is rejected and the state is exactly what it was. -/
theorem replay_rejected_unchanged (env : Env) (c : Chain) (ms : List (UInt64 × Msg)) (k : Bytes)
    (hacc : 0 < (((run env c ms).2.zip ms).filter (acceptedRecvOf env k)).length)
    (m' : Msg) (now' : UInt64) (hm' : recvKeyOf env m' = some k) :
    deliver env (run env c ms).1 now' m' = ((run env c ms).1, .err) :=
  recv_rejected_of_receipt hm' (receipt_after_accept hacc)

/-- the same for further history: the replay may come after any number of other messages -/
theorem replay_rejected_later (env : Env) (c : Chain) (ms ms2 : List (UInt64 × Msg)) (k : Bytes)
    (hacc : 0 < (((run env c ms).2.zip ms).filter (acceptedRecvOf env k)).length)
    (m' : Msg) (now' : UInt64) (hm' : recvKeyOf env m' = some k) :
    deliver env (run env (run env c ms).1 ms2).1 now' m' = ((run env (run env c ms).1 ms2).1, .err) :=
  recv_rejected_of_receipt hm' (receipts_monotone env _ ms2 k (receipt_after_accept hacc))

/-- **restart_preserves**: restates the modelling decision `handle … .restart = .ok c` (the proof is `rfl`): a node restart
(genesis export → JSON → import into an empty store) is MODELLED as the identity — every receipt, commitment,
acknowledgement, send sequence, client and relayer re-created under the key it had. That the real round trip is the
identity is not proved here: a loss in it shows as a divergence of the differential run. -/
theorem restart_preserves (env : Env) (c : Chain) (now : UInt64) : deliver env c now .restart = (c, .ok) := rfl

/-- exactly-once over histories that contain restarts: `Msg.restart` is one of the messages the history theorems
quantify over, so nothing has to be re-proved; stated explicitly for a restart at an arbitrary point. -/
theorem recv_at_most_once_across_restart (env : Env) (c : Chain) (ms ms2 : List (UInt64 × Msg)) (t : UInt64) (k : Bytes) :
    (((run env c (ms ++ (t, .restart) :: ms2)).2.zip (ms ++ (t, .restart) :: ms2)).filter (acceptedRecvOf env k)).length ≤ 1 :=
  recv_at_most_once env c (ms ++ (t, .restart) :: ms2) k

/-- a receive accepted before a restart is still refused — unchanged — after the restart and any further history -/
theorem replay_rejected_after_restart (env : Env) (c : Chain) (ms ms2 : List (UInt64 × Msg)) (t : UInt64) (k : Bytes)
    (hacc : 0 < (((run env c ms).2.zip ms).filter (acceptedRecvOf env k)).length)
    (m' : Msg) (now' : UInt64) (hm' : recvKeyOf env m' = some k) :
    deliver env (run env (run env c ms).1 ((t, .restart) :: ms2)).1 now' m' =
      ((run env (run env c ms).1 ((t, .restart) :: ms2)).1, .err) :=
  replay_rejected_later env c ms ((t, .restart) :: ms2) k hacc m' now' hm'

/-- messages that concern the client / relayer tables (and the restart) -/
def isClientOp : Msg → Bool
  | .updateClient _ _ _ _ _ => true
  | .createClient _ _ => true
  | .toggleClient _ _ => true
  | .upgradeClient _ _ => true
  | .registerRelayer _ => true
  | .restart => true
  | _ => false

/-- **client_ops_preserve_packet_state**: creating, updating, upgrading or toggling (light client ↔ TSS) a client,
registering a relayer and restarting never touch receipts, commitments, acknowledgements, send sequences or the
contract log — accepted or rejected. What a lifecycle operation on a CLIENT does to packet state on the real chain must
therefore be nothing (`C01:client-op-moved-packet-state`). -/
theorem client_ops_preserve_packet_state (env : Env) (c : Chain) (now : UInt64) (m : Msg) (hm : isClientOp m = true) :
    (deliver env c now m).1.receipts = c.receipts ∧ (deliver env c now m).1.commits = c.commits ∧
    (deliver env c now m).1.acks = c.acks ∧ (deliver env c now m).1.nextSeq = c.nextSeq ∧
    (deliver env c now m).1.evm = c.evm ∧ (deliver env c now m).1.ackWrites = c.ackWrites ∧
    (deliver env c now m).1.name = c.name := by
  cases deliver_step env c now m with
  | rejected hc _ => rw [hc]; exact ⟨rfl, rfl, rfl, rfl, rfl, rfl, rfl⟩
  | recv _ _ _ _ _ hm' => rw [hm'] at hm; cases hm
  | ack _ _ _ _ _ _ hm' => rw [hm'] at hm; cases hm
  | send _ _ hm' => rw [hm'] at hm; cases hm
  | admin _ _ _ hc => rw [hc]; exact ⟨rfl, rfl, rfl, rfl, rfl, rfl, rfl⟩

/-- exactly-once across a client toggle: a receive accepted under the old client (say a Tendermint light client) is
refused — unchanged — when it is delivered again under the new one (say TSS, signed by the TSS address), after any
further history. `Msg.toggleClient` is one of the messages the history theorems quantify over. -/
theorem replay_rejected_after_toggle (env : Env) (c : Chain) (ms ms2 : List (UInt64 × Msg)) (t : UInt64) (chain : Bytes)
    (cl : Client) (k : Bytes) (hacc : 0 < (((run env c ms).2.zip ms).filter (acceptedRecvOf env k)).length)
    (m' : Msg) (now' : UInt64) (hm' : recvKeyOf env m' = some k) :
    deliver env (run env (run env c ms).1 ((t, .toggleClient chain cl) :: ms2)).1 now' m' =
      ((run env (run env c ms).1 ((t, .toggleClient chain cl) :: ms2)).1, .err) :=
  replay_rejected_later env c ms ((t, .toggleClient chain cl) :: ms2) k hacc m' now' hm'

def cbCount (k : Bytes) (c : Chain) : Nat := c.evm.count (.recvCallback k)

def callbackOf : Msg → Option Callback
  | .recvPacket _ _ _ _ cb => some cb
  | _ => none

/-- one step: the effects of the receive callback of key `k` are committed only inside an accepted receive of `k`,
once, and only if CallPacket succeeded with result code 0 (`Callback.committed`). -/
theorem deliver_cbCount (env : Env) (c : Chain) (now : UInt64) (m : Msg) (k : Bytes) :
    cbCount k (deliver env c now m).1 =
      cbCount k c ∨
    (cbCount k (deliver env c now m).1 = cbCount k c + 1 ∧ (deliver env c now m).2 = .ok ∧ recvKeyOf env m = some k ∧
      ∃ cb, callbackOf m = some cb ∧ cb.committed = true) := by
  cases deliver_step env c now m with
  | rejected hc _ => left; rw [hc]
  | recv packet proof h signer cb hm hr eff =>
    subst hm
    rcases eff.evm_cases with hevm | ⟨hcm, hevm⟩
    · left; simp only [cbCount, hevm]
    · simp only [cbCount, hevm]
      by_cases hk : receiptKey (env.decodePacket packet).1 = k
      · right; subst hk; exact ⟨List.count_cons_self, hr, rfl, cb, rfl, hcm⟩
      · left; exact List.count_cons_of_ne fun e => hk (Event.recvCallback.inj e)
  | ack packet ack proof h signer o _ _ eff =>
    left
    rcases eff.evm_cases with hevm | ⟨a, relayer, hevm⟩
    · simp only [cbCount, hevm]
    · simp only [cbCount, hevm, ackEvents, List.cons_append, List.nil_append, ne_eq, reduceCtorEq, not_false_eq_true,
        List.count_cons_of_ne]
  | send _ _ _ _ _ hc => left; simp only [cbCount, hc, ne_eq, reduceCtorEq, not_false_eq_true, List.count_cons_of_ne]
  | admin _ _ _ hc => left; rw [hc]; rfl

/-- **effects_at_most_once**: over any history the number of COMMITTED `onRecvPacket` callbacks for key `k` (`cbCount`: the
`recvCallback` entries, logged only when the callback's effects are kept; a failing callback is invoked and not counted)
grows by at most the number of accepted receives of `k`, hence by at most one (and not at all if the receipt exists). -/
theorem effects_at_most_once (env : Env) (c : Chain) (ms : List (UInt64 × Msg)) (k : Bytes) :
    cbCount k (run env c ms).1 ≤ cbCount k c + acceptedCount env k c ms ∧
    acceptedCount env k c ms ≤ 1 ∧
    (c.receipts.has k = true → cbCount k (run env c ms).1 = cbCount k c) := by
  have hup := run_potential (fun _ => false) (acceptedRecvOf env k) (cbCount k) (env := env) (by
    intro c now m
    rw [Bool.toNat_false, Nat.zero_add]
    rcases deliver_cbCount env c now m k with he | ⟨he, hok, hkey, _⟩
    · rw [he]; exact Nat.le_add_right _ _
    · rw [he, acceptedRecvOf, hok, hkey, decide_eq_true rfl, decide_eq_true rfl]; exact Nat.le_refl _) c ms
  have hmono := run_invariant (env := env) (fun c' => cbCount k c ≤ cbCount k c') (by
    intro c' now m hc'
    rcases deliver_cbCount env c' now m k with he | ⟨he, _⟩ <;> rw [he]
    · exact hc'
    · exact Nat.le_succ_of_le hc') c ms (Nat.le_refl _)
  have hb := acceptedCount_bound env k c ms
  rw [filter_never, List.length_nil, Nat.zero_add] at hup
  refine ⟨hup, recv_at_most_once env c ms k, fun hk => ?_⟩
  rw [hk] at hb
  exact Nat.le_antisymm (Nat.le_trans hup (Nat.add_le_add_left hb _)) hmono

/-- **callback effects are all-or-nothing**: a receive whose callback failed (CallPacket error) or reported a
non-zero result code commits none of the callback's effects — for no key does the committed-callback count move —
although the receive is accepted and (C05) its error acknowledgement is stored. -/
theorem failed_callback_commits_nothing (env : Env) (c : Chain) (now : UInt64) (pk pf : Bytes) (h : Height) (s : Bytes)
    (cb : Callback) (hcb : cb.committed = false) (k : Bytes) :
    cbCount k (deliver env c now (.recvPacket pk pf h s cb)).1 = cbCount k c := by
  rcases deliver_cbCount env c now (.recvPacket pk pf h s cb) k with he | ⟨_, _, _, cb', hc, hcm⟩
  · exact he
  · simp only [callbackOf, Option.some.injEq] at hc
    subst hc; rw [hcb] at hcm; cases hcm

/-! ### non-vacuity: a concrete environment and history in which a receive is accepted and its replay refused -/
section Example
def exPacket : Packet := ⟨[1], [2], 1, [], [9], [], [], 0⟩
def exEnv : Env where
  sha256 := fun b => 0 :: b
  decodePacket := fun _ => (exPacket, false)
  encodePacket := fun _ => [7]
  decodeAck := fun _ => none
  encodeAck := fun _ => [8]
  verify := fun _ _ _ _ _ _ => true
  bech32Valid := fun _ => true
def exClient : Client := ⟨.tm, ⟨0, 5⟩, [(⟨0, 5⟩, [3])], [(⟨0, 5⟩, 0)], 0, 0, []⟩
def exChain : Chain := { Chain.init [2] with clients := [([1], exClient)], relayers := [⟨[4], [[1]], [[5]]⟩] }
def exMsg : Msg := .recvPacket [] [] ⟨0, 5⟩ [4] (.ok 0 [] [])

example : (run exEnv exChain [(10, exMsg), (11, exMsg)]).2 = [.ok, .err] := by decide +kernel
example : 0 < acceptedCount exEnv (receiptKey exPacket) exChain [(10, exMsg)] := by decide +kernel
end Example

end TM.Xibc
