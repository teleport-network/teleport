import TeleportModel.Proofs.C13
/-
C13 — every modelled keeper write preserves `ModuleKeys`; every state reachable from a fresh chain by keeper operations
satisfies it, so `roundtrip` applies without a free hypothesis. Also: `export_idempotent` needs `ModuleKeys` (counterexamples).
-/
namespace TM.Genesis
open TM TM.GKv

theorem tyOfChain_del_other {s : Store} (hS : Sorted s) {k chain : Bytes} (hne : k ≠ clientKey chain kClientState) :
    tyOfChain (del s k) chain = tyOfChain s chain := by
  unfold tyOfChain; rw [get_del hS, if_neg hne]

theorem moduleKeys_del {s : Store} (h : ModuleKeys s) {k : Bytes} (hcn : k ≠ kChainName)
    (hne : ∀ c, slash ∉ c → k ≠ clientKey c kClientState) : ModuleKeys (del s k) := by
  obtain ⟨hS, hC, _⟩ := (moduleKeys_iff s).mp h
  refine moduleKeys_of_sub h (sorted_del hS k) ?_ (fun kv hkv => Or.inl (mem_del_sub hkv)) ?_
  · rw [get_del hS, if_neg hcn]; exact hC
  · intro _ _ c _ ty hcs _ hty
    rw [tyOfChain_del_other hS (hne c hcs)]; exact hty

theorem tyOfChain_filter (s : Store) (g : Bytes → Bool) {chain : Bytes} (hg : g (clientKey chain kClientState) = true) :
    tyOfChain (s.filter (fun kv => g kv.1)) chain = tyOfChain s chain := by
  unfold tyOfChain; rw [get_filter, if_pos hg]

theorem moduleKeys_filter {s : Store} (h : ModuleKeys s) (g : Bytes → Bool) (hcn : g kChainName = true)
    (hcs : ∀ c, slash ∉ c → g (clientKey c kClientState) = true) : ModuleKeys (s.filter (fun kv => g kv.1)) := by
  obtain ⟨hS, hC, _⟩ := (moduleKeys_iff s).mp h
  refine moduleKeys_of_sub h (sorted_filter hS _) ?_ (fun kv hkv => Or.inl (List.mem_filter.mp hkv).1) ?_
  · rw [get_filter, if_pos hcn]; exact hC
  · intro _ _ c _ ty hc _ hty
    rw [tyOfChain_filter s g (hcs c hc)]; exact hty

theorem noSlash_iff {b : Bytes} : noSlash b = true ↔ slash ∉ b := by
  simp [noSlash]

theorem moduleKeys_delPath {s : Store} (h : ModuleKeys s) {chain path : Bytes} (hc : slash ∉ chain)
    (hne : path ≠ kClientState) : ModuleKeys (del s (clientKey chain path)) :=
  moduleKeys_del h (clientKey_ne_chainName _ _) (fun _ hcs e => hne (clientKey_inj hc hcs e).2)

theorem metaPath_signer (h : Height) : metaPath .bsc (signerPath h) = true := by
  have hp : kRecent.isPrefixOf (signerPath h) = true := isPrefixOf_append _ _
  simp [metaPath, hp]

theorem metaPath_pending : metaPath .bsc kPending = true := by decide

theorem metaPath_eth (pfx hash : Bytes) (h : UInt64) (hpfx : pfx = kEthIndex ∨ pfx = kEthRoot) :
    metaPath .eth (ethPath pfx hash h) = true := by
  have hp : pfx.isPrefixOf (ethPath pfx hash h) = true := isPrefixOf_append _ _
  rcases hpfx with rfl | rfl <;> simp [metaPath, hp]

/-- BSC `SetSigner` (recent signers) on a chain with a BSC client -/
theorem moduleKeys_bscSetSigner {s : Store} (h : ModuleKeys s) {chain : Bytes} (hgt : Height) (v : Bytes)
    (hc : slash ∉ chain) (hty : tyOfChain s chain = some .bsc) : ModuleKeys (bscSetSigner s chain hgt v) :=
  (moduleKeys_setMeta h hc hty (metaPath_signer hgt) v).1

theorem moduleKeys_bscDelSigner {s : Store} (h : ModuleKeys s) {chain : Bytes} (hgt : Height) (hc : slash ∉ chain) :
    ModuleKeys (bscDelSigner s chain hgt) :=
  moduleKeys_delPath h hc (metaPath_special (metaPath_signer hgt)).1

/-- BSC `SetPendingValidators` -/
theorem moduleKeys_bscSetPending {s : Store} (h : ModuleKeys s) {chain : Bytes} (blob : Bytes)
    (hc : slash ∉ chain) (hty : tyOfChain s chain = some .bsc) : ModuleKeys (bscSetPending s chain blob) :=
  (moduleKeys_setMeta h hc hty metaPath_pending blob).1

/-- ETH `SetEthHeaderIndex` -/
theorem moduleKeys_ethSetIndex {s : Store} (h : ModuleKeys s) {chain : Bytes} (hash : Bytes) (n : UInt64) (blob : Bytes)
    (hc : slash ∉ chain) (hty : tyOfChain s chain = some .eth) : ModuleKeys (ethSetIndex s chain hash n blob) :=
  (moduleKeys_setMeta h hc hty (metaPath_eth kEthIndex hash n (Or.inl rfl)) blob).1

/-- ETH `SetEthConsensusRoot` -/
theorem moduleKeys_ethSetRoot {s : Store} (h : ModuleKeys s) {chain : Bytes} (root : Bytes) (n : UInt64) (hash : Bytes)
    (hc : slash ∉ chain) (hty : tyOfChain s chain = some .eth) : ModuleKeys (ethSetRoot s chain root n hash) :=
  (moduleKeys_setMeta h hc hty (metaPath_eth kEthRoot root n (Or.inr rfl)) _).1

/-- Tendermint pruning (`deleteConsensusState` + `deleteConsensusMetadata`) -/
theorem moduleKeys_tmPrune {s : Store} (h : ModuleKeys s) {chain : Bytes} (hgt : Height) (hc : slash ∉ chain) :
    ModuleKeys (tmPrune s chain hgt) :=
  moduleKeys_delPath (moduleKeys_delPath (moduleKeys_delPath h hc (consPath_ne_clientState hgt)) hc
    (metaPath_special (metaPath_tm_ptime hgt)).1) hc (metaPath_special (metaPath_tm_iter hgt)).1

/-- `RegisterRelayers`: the entry is stored under the address inside the value -/
theorem moduleKeys_registerRelayer {s : Store} (h : ModuleKeys s) (blob : Bytes) : ModuleKeys (registerRelayer s blob) := by
  have hp : kRelayers.isPrefixOf (relayerKey (relayerAddr blob)) = true := isPrefixOf_append _ _
  apply moduleKeys_set h (fun c _ => ne_clientKey_of_prefix hp (by decide) (by decide) c _)
  rw [xKeyOk_relayers hp]
  exact beq_self_eq_true _

/-- `SetNextSequenceSend` for every sequence -/
theorem moduleKeys_setNextSeq {s : Store} (h : ModuleKeys s) {src dst : Bytes} (q : UInt64)
    (hs : slash ∉ src) (hd : slash ∉ dst) : ModuleKeys (setNextSeq s src dst q) := by
  have hp := nextSeqKey_prefix src dst
  apply moduleKeys_set h (fun c _ => ne_clientKey_of_prefix hp (by decide) (by decide) c _)
  rw [xKeyOk_nextSeq hp, seqKeyOk, nextSeqKey_split hs hd]
  rfl

theorem moduleKeys_delCommitment {s : Store} (h : ModuleKeys s) (src dst : Bytes) (q : UInt64) :
    ModuleKeys (delCommitment s src dst q) :=
  moduleKeys_del h (ne_of_isPrefixOf _ (packetKey_prefix kCommitments src dst q.toNat) (by decide))
    (packetKey_not_clientState _ (Or.inr (Or.inl rfl)))

theorem tyOfChain_setClientState {s : Store} (hS : Sorted s) (chain blob : Bytes) :
    tyOfChain (setClientState s chain blob) chain = clientTy blob := by
  unfold tyOfChain setClientState; rw [get_set hS, if_pos rfl]; rfl

/-- `SetClientState` keeps ModuleKeys exactly in the situations the keeper uses it: the chain has no client yet, or the new
client state has the type of the existing one (UpdateClient / UpgradeClient). A client state of another type would leave the
old type's metadata entries behind, which `xKeyOk` judges by the new type: the repaired ToggleClient therefore clears the
client store first (`moduleKeys_clearClient`); that the hypothesis cannot be dropped is not shown by a witness here. -/
theorem moduleKeys_setClientState {s : Store} (h : ModuleKeys s) {chain blob : Bytes} (hc : slash ∉ chain)
    (hb : (clientTy blob).isSome = true)
    (hsame : ∀ cv, get s (clientKey chain kClientState) = some cv → clientTy cv = clientTy blob) :
    ModuleKeys (setClientState s chain blob) := by
  obtain ⟨hS, hC, _⟩ := (moduleKeys_iff s).mp h
  refine moduleKeys_of_sub h (sorted_set hS _ _) ?_ ?_ ?_
  · rw [setClientState, get_set hS, if_neg (clientKey_ne_chainName _ _)]; exact hC
  · intro kv hkv
    rcases mem_set_sub hkv with rfl | hm
    · right; rw [xKeyOk_clientKey hc, if_pos rfl]; exact hb
    · exact Or.inl hm
  · intro _ _ c _ ty hcs _ hty
    by_cases e : c = chain
    · subst e
      obtain ⟨cv, hg, ht⟩ := bind_clientTy_some hty
      rw [tyOfChain_setClientState hS, ← hsame cv hg]; exact ht
    · rw [setClientState, tyOfChain_set_other hS (fun e' => e (clientKey_inj hcs hc e'.symm).1)]; exact hty

theorem moduleKeys_setClientState_ty {s : Store} (h : ModuleKeys s) {chain blob : Bytes} (hc : slash ∉ chain)
    (hb : (clientTy blob).isSome = true) (ht : tyOfChain s chain = clientTy blob) :
    ModuleKeys (setClientState s chain blob) := by
  refine moduleKeys_setClientState h hc hb (fun cv hcv => ?_)
  rw [tyOfChain, hcv] at ht
  exact ht

theorem clientsSlash_prefix_clientPrefix (chain : Bytes) : kClientsSlash.isPrefixOf (clientPrefix chain) = true := by
  unfold clientPrefix; rw [List.append_assoc]; exact isPrefixOf_append _ _

theorem chain_of_clientPrefix_isPrefixOf {chain c p : Bytes} (hc : slash ∉ chain) (hcs : slash ∉ c)
    (h : (clientPrefix chain).isPrefixOf (clientKey c p) = true) : c = chain := by
  obtain ⟨r, hr⟩ := (isPrefixOf_iff _ _).mp h
  exact (clientKey_inj hcs hc (hr : clientKey c p = clientKey chain r)).1

/-- `clearClientStore` keeps ModuleKeys and leaves nothing under the chain -/
theorem moduleKeys_clearClient {s : Store} (h : ModuleKeys s) {chain : Bytes} (hc : slash ∉ chain) :
    ModuleKeys (clearClient s chain) ∧ get (clearClient s chain) (clientKey chain kClientState) = none := by
  obtain ⟨hS, hC, _⟩ := (moduleKeys_iff s).mp h
  have hget : ∀ k, get (clearClient s chain) k = if (!(clientPrefix chain).isPrefixOf k) = true then get s k else none :=
    fun k => get_filter s (fun k => !(clientPrefix chain).isPrefixOf k) k
  have hown : ∀ p, (clientPrefix chain).isPrefixOf (clientKey chain p) = true := fun p => isPrefixOf_append _ _
  refine ⟨moduleKeys_of_sub h (sorted_filter hS _) ?_ (fun kv hkv => Or.inl (List.mem_filter.mp hkv).1) ?_, ?_⟩
  · have : (clientPrefix chain).isPrefixOf kChainName = false :=
      Bool.eq_false_iff.mpr fun hq => absurd (isPrefixOf_trans (clientsSlash_prefix_clientPrefix chain) hq) (by decide)
    rw [hget, this]; exact hC
  · rintro ⟨k, v⟩ hkv c p ty hcs rfl hty
    have hg := (List.mem_filter.mp hkv).2
    have hne : (clientPrefix chain).isPrefixOf (clientKey c kClientState) = false := by
      refine Bool.eq_false_iff.mpr fun hq => ?_
      rw [chain_of_clientPrefix_isPrefixOf hc hcs hq, hown] at hg
      cases hg
    unfold tyOfChain
    rw [hget, hne]; exact hty
  · rw [hget, hown]; rfl

theorem createGuard_spec {chain cb sb : Bytes} {m : InitMeta} (h : createGuard chain cb sb m = true) :
    slash ∉ chain ∧ ∃ ty, clientTy cb = some ty ∧ m.tyOk ty = true ∧ (ty = .tss ∨ (consTy sb).isSome = true) := by
  unfold createGuard at h
  rw [Bool.and_eq_true] at h
  refine ⟨noSlash_iff.mp h.1, ?_⟩
  cases hty : clientTy cb with
  | none => rw [hty] at h; cases h.2
  | some ty =>
    have h2 := h.2
    simp only [hty, Bool.and_eq_true, Bool.or_eq_true, beq_iff_eq] at h2
    exact ⟨ty, rfl, h2.1, h2.2⟩

/-- `CreateClient` on a chain without client state (and the second half of the repaired `ToggleClient`) keeps ModuleKeys:
after the client state, every client type writes two metadata entries of its own type and then the consensus state -/
theorem moduleKeys_createClient {s : Store} (h : ModuleKeys s) {chain cb sb : Bytes} (hgt : Height) {m : InitMeta}
    (hg : createGuard chain cb sb m = true) (hnone : get s (clientKey chain kClientState) = none) :
    ModuleKeys (createClient s chain cb sb hgt m) := by
  obtain ⟨hc, ty, hty, hok, hcons⟩ := createGuard_spec hg
  have h1 : ModuleKeys (setClientState s chain cb) :=
    moduleKeys_setClientState h hc (by rw [hty]; rfl) (fun cv hcv => by rw [hnone] at hcv; cases hcv)
  have t1 : tyOfChain (setClientState s chain cb) chain = some ty := by
    rw [tyOfChain_setClientState (sorted_of_moduleKeys h), hty]
  cases m with
  | tss => exact h1
  | tm now =>
    cases ty <;> cases hok
    obtain ⟨h2, t2⟩ := moduleKeys_setMeta h1 hc t1 (metaPath_tm_ptime hgt) (be64 now)
    obtain ⟨h3, _⟩ := moduleKeys_setMeta h2 hc t2 (metaPath_tm_iter hgt) (consPath hgt)
    exact moduleKeys_setConsensusState h3 hgt hc (hcons.resolve_left Ty.noConfusion)
  | bsc signer pending =>
    cases ty <;> cases hok
    obtain ⟨h2, t2⟩ := moduleKeys_setMeta h1 hc t1 (metaPath_signer hgt) signer
    obtain ⟨h3, _⟩ := moduleKeys_setMeta h2 hc t2 metaPath_pending pending
    exact moduleKeys_setConsensusState h3 hgt hc (hcons.resolve_left Ty.noConfusion)
  | eth hash root idx =>
    cases ty <;> cases hok
    obtain ⟨h2, t2⟩ := moduleKeys_setMeta h1 hc t1 (metaPath_eth kEthIndex hash hgt.2 (Or.inl rfl)) idx
    obtain ⟨h3, _⟩ := moduleKeys_setMeta h2 hc t2 (metaPath_eth kEthRoot root hgt.2 (Or.inr rfl)) (ethPath kEthIndex hash hgt.2)
    exact moduleKeys_setConsensusState h3 hgt hc (hcons.resolve_left Ty.noConfusion)

/-- BSC `DeleteAllSigner`: the test `recentSingers` under the chain's client prefix spares the chain name and every client state -/
theorem moduleKeys_bscClearSigners {s : Store} (h : ModuleKeys s) {chain : Bytes} (hc : slash ∉ chain) :
    ModuleKeys (bscClearSigners s chain) ∧ ∀ c, slash ∉ c → tyOfChain (bscClearSigners s chain) c = tyOfChain s c := by
  have h1 : (!(clientKey chain kRecent).isPrefixOf kChainName) = true := by
    rw [Bool.not_eq_true', Bool.eq_false_iff]
    exact fun hq => absurd (isPrefixOf_trans (clientsSlash_prefix_clientKey chain kRecent) hq) (by decide)
  have h2 : ∀ c, slash ∉ c → (!(clientKey chain kRecent).isPrefixOf (clientKey c kClientState)) = true := by
    intro c hcs
    rw [Bool.not_eq_true', Bool.eq_false_iff]
    intro hq
    obtain ⟨r, hr⟩ := (isPrefixOf_iff _ _).mp hq
    have e2 : clientKey c kClientState = clientKey chain (kRecent ++ r) := by
      rw [hr]; simp [clientKey]
    have hp : kRecent.isPrefixOf kClientState = true := by
      rw [(clientKey_inj hcs hc e2).2]; exact isPrefixOf_append _ _
    exact absurd hp (by decide)
  exact ⟨moduleKeys_filter h (fun k => !(clientKey chain kRecent).isPrefixOf k) h1 h2,
    fun c hcs => tyOfChain_filter s (fun k => !(clientKey chain kRecent).isPrefixOf k) (h2 c hcs)⟩

/-- `UpgradeClient` (same client type) keeps ModuleKeys; for a TSS client it writes the client state only -/
theorem moduleKeys_upgradeClient {s : Store} (h : ModuleKeys s) {chain cb sb : Bytes} (hgt : Height) {m : InitMeta}
    (hg : createGuard chain cb sb m = true) (hsame : tyOfChain s chain = clientTy cb) :
    ModuleKeys (upgradeClient s chain cb sb hgt m) := by
  obtain ⟨hc, ty, hty, hok, hcons⟩ := createGuard_spec hg
  have hb : (clientTy cb).isSome = true := by rw [hty]; rfl
  rw [hty] at hsame
  -- after the metadata writes the chain still has its type, so the new client state is of the same type
  have fin : ∀ {s2 : Store}, ModuleKeys s2 → tyOfChain s2 chain = some ty → (consTy sb).isSome = true →
      ModuleKeys (setConsensusState (setClientState s2 chain cb) chain hgt sb) :=
    fun h2 t2 hcs => moduleKeys_setConsensusState (moduleKeys_setClientState_ty h2 hc hb (t2.trans hty.symm)) hgt hc hcs
  cases m with
  | tss => exact moduleKeys_setClientState_ty h hc hb (hsame.trans hty.symm)
  | tm now =>
    cases ty <;> cases hok
    obtain ⟨h1, t1⟩ := moduleKeys_setMeta h hc hsame (metaPath_tm_ptime hgt) (be64 now)
    obtain ⟨h2, t2⟩ := moduleKeys_setMeta h1 hc t1 (metaPath_tm_iter hgt) (consPath hgt)
    exact fin h2 t2 (hcons.resolve_left Ty.noConfusion)
  | bsc signer pending =>
    cases ty <;> cases hok
    obtain ⟨h0, t0⟩ := moduleKeys_bscClearSigners h hc
    obtain ⟨h1, t1⟩ := moduleKeys_setMeta h0 hc ((t0 chain hc).trans hsame) (metaPath_signer hgt) signer
    obtain ⟨h2, t2⟩ := moduleKeys_setMeta h1 hc t1 metaPath_pending pending
    exact fin h2 t2 (hcons.resolve_left Ty.noConfusion)
  | eth hash root idx =>
    cases ty <;> cases hok
    obtain ⟨h1, t1⟩ := moduleKeys_setMeta h hc hsame (metaPath_eth kEthIndex hash hgt.2 (Or.inl rfl)) idx
    obtain ⟨h2, t2⟩ := moduleKeys_setMeta h1 hc t1 (metaPath_eth kEthRoot root hgt.2 (Or.inr rfl)) (ethPath kEthIndex hash hgt.2)
    exact fin h2 t2 (hcons.resolve_left Ty.noConfusion)

/-- /repo 6c33891: for a TSS client neither create, nor toggle, nor upgrade writes a consensus state — whatever consensus state
the proposal carries, the only entry written is the client state (so no consensus state at the zero height can appear) -/
theorem tss_writes_client_state_only (s : Store) (chain cb sb : Bytes) (h : Height) :
    createClient s chain cb sb h .tss = setClientState s chain cb ∧
    upgradeClient s chain cb sb h .tss = setClientState s chain cb ∧
    createClient (clearClient s chain) chain cb sb h .tss = setClientState (clearClient s chain) chain cb :=
  ⟨rfl, rfl, rfl⟩

/-- an operation whose guard fails leaves the store as it is -/
theorem ite_inv {P : Store → Prop} {s t : Store} {c : Bool} (h : P s) (ht : c = true → P t) :
    P (if c = true then t else s) := by
  cases c
  · exact h
  · exact ht rfl

theorem ite_inv₂ {P : Store → Prop} {s t : Store} {a b : Bool} (h : P s) (ht : a = true → b = true → P t) :
    P (if (a && b) = true then t else s) :=
  ite_inv h fun hg => ht (Bool.and_eq_true_iff.mp hg).1 (Bool.and_eq_true_iff.mp hg).2

theorem applyOp_moduleKeys {s : Store} (h : ModuleKeys s) (op : KOp) : ModuleKeys (applyOp s op) := by
  cases op with
  | chainName n => exact moduleKeys_setChainName h n
  | relayer blob => exact moduleKeys_registerRelayer h blob
  | create chain cb sb hgt m =>
    exact ite_inv₂ h fun g1 g2 => moduleKeys_createClient h hgt g1 (Option.isNone_iff_eq_none.mp g2)
  | toggle chain cb sb hgt m =>
    refine ite_inv₂ h fun g1 _ => ?_
    obtain ⟨h0, hn⟩ := moduleKeys_clearClient h (createGuard_spec g1).1
    exact moduleKeys_createClient h0 hgt g1 hn
  | upgrade chain cb sb hgt m => exact ite_inv₂ h fun g1 g2 => moduleKeys_upgradeClient h hgt g1 (eq_of_beq g2)
  | clientSameType chain blob =>
    refine ite_inv₂ h fun g12 g3 => ?_
    rw [Bool.and_eq_true] at g12
    exact moduleKeys_setClientState_ty h (noSlash_iff.mp g12.1) g12.2 (eq_of_beq g3)
  | cons chain hgt blob => exact ite_inv₂ h fun g1 g2 => moduleKeys_setConsensusState h hgt (noSlash_iff.mp g1) g2
  | tmMeta chain hgt t =>
    refine ite_inv₂ h fun g1 g2 => ?_
    obtain ⟨cv, hcv, hty⟩ := bind_clientTy_some (eq_of_beq g2)
    exact moduleKeys_tmSetMeta h hgt t (noSlash_iff.mp g1) hcv hty
  | tmPrune chain hgt => exact ite_inv h fun hg => moduleKeys_tmPrune h hgt (noSlash_iff.mp hg)
  | bscSigner chain hgt v =>
    exact ite_inv₂ h fun g1 g2 => moduleKeys_bscSetSigner h hgt v (noSlash_iff.mp g1) (eq_of_beq g2)
  | bscDelSigner chain hgt => exact ite_inv h fun hg => moduleKeys_bscDelSigner h hgt (noSlash_iff.mp hg)
  | bscPending chain blob =>
    exact ite_inv₂ h fun g1 g2 => moduleKeys_bscSetPending h blob (noSlash_iff.mp g1) (eq_of_beq g2)
  | ethIndex chain hash n blob =>
    exact ite_inv₂ h fun g1 g2 => moduleKeys_ethSetIndex h hash n blob (noSlash_iff.mp g1) (eq_of_beq g2)
  | ethRoot chain root n hash =>
    exact ite_inv₂ h fun g1 g2 => moduleKeys_ethSetRoot h root n hash (noSlash_iff.mp g1) (eq_of_beq g2)
  | commit src dst q d =>
    exact ite_inv₂ h fun g1 g2 => (moduleKeys_packet h q d (noSlash_iff.mp g1) (noSlash_iff.mp g2)).1
  | delCommit src dst q => exact ite_inv h fun _ => moduleKeys_delCommitment h src dst q
  | ack src dst q d =>
    exact ite_inv₂ h fun g1 g2 => (moduleKeys_packet h q d (noSlash_iff.mp g1) (noSlash_iff.mp g2)).2.1
  | receipt src dst q =>
    exact ite_inv₂ h fun g1 g2 => (moduleKeys_packet h q [] (noSlash_iff.mp g1) (noSlash_iff.mp g2)).2.2
  | nextSeq src dst q =>
    exact ite_inv₂ h fun g1 g2 => moduleKeys_setNextSeq h q (noSlash_iff.mp g1) (noSlash_iff.mp g2)

theorem moduleKeys_fresh (n : Bytes) : ModuleKeys (freshStore n) := by
  refine (moduleKeys_iff _).mpr ⟨?_, ?_, ?_⟩
  · exact sorted_set sorted_nil _ _
  · simp [freshStore, setChainName, GKv.set, GKv.get]
  · intro kv hkv
    simp [freshStore, setChainName, GKv.set] at hkv
    subst hkv
    simp [xKeyOk]

/-- **every state reachable from a fresh chain by keeper operations satisfies ModuleKeys** -/
theorem reachable_moduleKeys (n : Bytes) (ops : List KOp) : ModuleKeys (ops.foldl applyOp (freshStore n)) :=
  List.foldlRecOn ops applyOp (moduleKeys_fresh n) (fun _ h op _ => applyOp_moduleKeys h op)

/-- **the genesis round trip holds on every reachable state — no free hypothesis** -/
theorem reachable_roundtrip (n : Bytes) (ops : List KOp) :
    initXibc (exportXibc (ops.foldl applyOp (freshStore n))) = ops.foldl applyOp (freshStore n) :=
  roundtrip (reachable_moduleKeys n ops)

theorem reachable_export_idempotent (n : Bytes) (ops : List KOp) :
    exportXibc (initXibc (exportXibc (ops.foldl applyOp (freshStore n)))) = exportXibc (ops.foldl applyOp (freshStore n)) :=
  export_idempotent (reachable_moduleKeys n ops)

/-! ## the export lists ALL entries of every collection — for collections of any size -/

theorem length_iterateHashes {s : Store} (h : ModuleKeys s) {pfx : Bytes}
    (hpfx : pfx = kAcks ∨ pfx = kCommitments ∨ pfx = kReceipts) :
    (iterateHashes s pfx).length = (iter s pfx).length := by
  obtain ⟨_, _, hK⟩ := (moduleKeys_iff s).mp h
  unfold iterateHashes
  apply List.filterMap_length_eq_length.mpr
  intro kv hkv
  obtain ⟨hm, hp⟩ := (mem_iter s pfx kv).mp hkv
  obtain ⟨hok, _⟩ := hashKey_of_prefix (hK kv hm) hp hpfx
  obtain ⟨a, b, n, hs, hd⟩ := hashKeyOk_spec hok
  rw [parseHashKey_of_split hs hd]; rfl

theorem length_iterateSeqs_of_all (l : Store) (h : ∀ kv ∈ l, (parsePath kv.1).isSome = true) :
    (iterateSeqs l).length = l.length := by
  rw [iterateSeqs_eq h]
  exact List.filterMap_length_eq_length.mpr (fun kv hkv => by rw [Option.isSome_map]; exact h kv hkv)

/-- the exported xibc genesis lists EVERY entry of every collection, whatever its size: as many acknowledgements / commitments /
receipts / send sequences / relayers as the store holds under the respective prefix (no page size, no limit), every client state,
and — `sub_writes` — every single store entry is reproduced by the writes of InitGenesis applied to the export. (Token pairs and
parameters: `export_complete_aggregate`.) -/
theorem export_complete {s : Store} (h : ModuleKeys s) :
    (exportXibc s).packet.acks.length = (iter s kAcks).length ∧
    (exportXibc s).packet.commits.length = (iter s kCommitments).length ∧
    (exportXibc s).packet.receipts.length = (iter s kReceipts).length ∧
    (exportXibc s).packet.seqs.length = (iter s kNextSeq).length ∧
    (exportXibc s).client.relayers.length = (iter s kRelayers).length ∧
    (∀ chain cv, (clientKey chain kClientState, cv) ∈ s → slash ∉ chain → (chain, cv) ∈ (exportXibc s).client.clients) ∧
    (∀ kv, kv ∈ s → kv ∈ xibcWrites (exportXibc s)) := by
  obtain ⟨_, _, hK⟩ := (moduleKeys_iff s).mp h
  refine ⟨length_iterateHashes h (Or.inl rfl), length_iterateHashes h (Or.inr (Or.inl rfl)),
    length_iterateHashes h (Or.inr (Or.inr rfl)), ?_, ?_, ?_, sub_writes h⟩
  · exact length_iterateSeqs_of_all _ (seqs_all_parse hK)
  · simp [exportXibc, exportClientGen, exportRelayers]
  · intro chain cv hm hn
    exact mem_exportClients.mpr ⟨hm, hn⟩

/-- the aggregate export lists every stored pair and the parameter export every parameter entry (unconditionally) -/
theorem export_complete_aggregate (st : AggState) :
    (exportAggregate st).pairs.length = (iter st.a [1]).length ∧ (exportAggregate st).params = st.p := by
  simp [exportAggregate, exportAgg, exportParams]

/-! ## `export_idempotent` does need `ModuleKeys` -/

/-- two relayer entries stored under keys that are not their own address (both values carry the empty address): the export
lists two relayers, the import writes both under `relayers`, the second export lists one -/
def badRelayers : Store := [(kRelayers ++ [0x58], []), (kRelayers ++ [0x59], [])]

/-- a receipt whose value is not the byte 1: InitGenesis always writes 1, so the second export carries other data -/
def badReceipt : Store := [(packetKey kReceipts [0x61, 0x62, 0x63] [0x78, 0x79, 0x7a] 5, [7])]

theorem export_idempotent_fails_without_moduleKeys :
    (Sorted badRelayers ∧ exportXibc (initXibc (exportXibc badRelayers)) ≠ exportXibc badRelayers) ∧
    (Sorted badReceipt ∧ exportXibc (initXibc (exportXibc badReceipt)) ≠ exportXibc badReceipt) := by
  refine ⟨⟨(sortedB_iff _).mp (by decide), by decide +kernel⟩, ⟨(sortedB_iff _).mp (by decide), by decide +kernel⟩⟩

end TM.Genesis
