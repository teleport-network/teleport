import TeleportModel.Model.Abi
import TeleportModel.Model.Json
import TeleportModel.Proofs.C19Abi
/-
C19 — the JSON round trip of `ABIDecode` returns the packed struct, provided the tuple component names
resolve (through encoding/json's matching rule) to the very fields `Pack` read them from (`TagsMatch`), every
field is covered (`Covers`) and the strings are valid UTF-8.
-/
namespace TM.C19
open TM TM.Abi TM.Json

theorem sanitizeF_valid (f : Nat) (s : Bytes) (h : validUtf8F f s = true) : sanitizeF f s = s := by
  fun_induction validUtf8F f s with
  | case1 => rw [sanitizeF]
  | case2 => cases h
  | case3 => cases h
  | case4 f s hs hn ih =>
    rw [sanitizeF.eq_3 s f hs]
    split
    · contradiction
    · rw [ih h, List.take_append_drop]

/-- a valid UTF-8 string survives json.Marshal ∘ json.Unmarshal unchanged -/
theorem sanitize_valid (s : Bytes) (h : validUtf8 s = true) : sanitize s = s :=
  sanitizeF_valid _ _ h

theorem jsonVal_ok (v : Val) (h : strOk v = true) : jsonVal v = v := by
  cases v with
  | str s => simp [jsonVal, sanitize_valid s h]
  | u64 n => rfl
  | bytes b => rfl

theorem pick_spec {S : Schema} {sv : List Val} {c : Comp} {v : Val} (h : pick S sv c = some v) :
    ∃ j, packField S c.name = some j ∧ sv[j]? = some v ∧ v.ty = c.ty := by
  unfold pick at h
  cases hj : packField S c.name with
  | none => simp only [hj, reduceCtorEq] at h
  | some j =>
    cases hv : sv[j]? with
    | none => simp only [hj, hv, reduceCtorEq] at h
    | some w =>
      simp only [hj, hv, Option.ite_none_right_eq_some, Option.some.injEq] at h
      exact ⟨j, rfl, h.2 ▸ hv, h.2 ▸ h.1⟩

theorem pickAll_spec (S : Schema) (sv : List Val) (L : Layout) (vs : List Val) (h : pickAll S sv L = some vs) :
    vs.map Val.ty = L.tys ∧ vs.length = L.length ∧ ∀ p ∈ L.zip vs, pick S sv p.1 = some p.2 := by
  fun_induction pickAll S sv L generalizing vs with
  | case1 => cases h; exact ⟨rfl, rfl, fun _ hp => nomatch hp⟩
  | case2 c r v vs' hr hv ih =>
    cases h
    obtain ⟨h1, h2, h3⟩ := ih vs' hr
    obtain ⟨_, _, _, hty⟩ := pick_spec hv
    refine ⟨?_, congrArg (· + 1) h2, ?_⟩
    · rw [List.map_cons, hty, h1]; rfl
    · intro p hp
      rcases List.mem_cons.mp hp with rfl | hp
      · exact hv
      · exact h3 p hp
  | case3 => cases h

/-- `assign` returns `sv` itself when every pair carries the value `sv` holds in the field its key resolves to, and every
    field of the accumulator is right already or is the target of a pair -/
theorem assign_eq (S : Schema) (sv : List Val) (pairs : List (Comp × Val)) :
    ∀ acc : List Val, acc.length = sv.length →
    (∀ p ∈ pairs, ∃ j, jsonField S p.1.name = some j ∧ (S[j]?).map (·.ty) = some p.1.ty ∧ sv[j]? = some p.2 ∧ jsonVal p.2 = p.2) →
    (∀ k, k < sv.length → acc[k]? = sv[k]? ∨ ∃ p ∈ pairs, jsonField S p.1.name = some k) →
    assign S pairs acc = some sv := by
  induction pairs with
  | nil =>
    intro acc hl _ hcov
    have : acc = sv := List.ext_getElem? fun k => by
      rcases Nat.lt_or_ge k sv.length with hk | hk
      · exact (hcov k hk).resolve_right (fun ⟨_, hp, _⟩ => nomatch hp)
      · rw [List.getElem?_eq_none (hl ▸ hk), List.getElem?_eq_none hk]
    rw [this]; rfl
  | cons p r ih =>
    intro acc hl hg hcov
    obtain ⟨c, v⟩ := p
    obtain ⟨j, hj, hty, hsv, hjv⟩ := hg (c, v) List.mem_cons_self
    have hjlt : j < acc.length := hl ▸ (List.getElem?_eq_some_iff.mp hsv).1
    obtain ⟨f, hf, hfty⟩ : ∃ f, S[j]? = some f ∧ f.ty = c.ty := Option.map_eq_some_iff.mp hty
    have hsetj : (acc.set j v)[j]? = sv[j]? := by rw [hsv, List.getElem?_set_self hjlt]
    have := ih (acc.set j v) (by rw [List.length_set, hl]) (fun q hq => hg q (List.mem_cons_of_mem _ hq)) (by
      intro k hk
      by_cases hjk : j = k
      · exact Or.inl (hjk ▸ hsetj)
      · rcases hcov k hk with h | ⟨q, hq, hqk⟩
        · exact Or.inl (by rw [List.getElem?_set_ne hjk, h])
        · rcases List.mem_cons.mp hq with rfl | hq
          · exact absurd (Option.some.inj (hj.symm.trans hqk)) hjk
          · exact Or.inr ⟨q, hq, hqk⟩)
    simp only [assign, hj, hf, hfty, if_true, hjv]
    exact this

/-- **decode ∘ encode = id** for a struct bound to a tuple layout -/
theorem decode_encode (L : Layout) (S : Schema) (sv : List Val) (b : Bytes)
    (ht : TagsMatch L S) (hc : Covers L S)
    (hty : sv.map Val.ty = S.map (·.ty))
    (hu : ∀ v ∈ sv, strOk v = true)
    (hp : packStruct L S sv = some b) (hsz : b.length < 2 ^ 256) :
    decodeStruct L S b = some sv := by
  rw [packStruct, toTuple, if_neg (fun h => h ht.2)] at hp
  obtain ⟨vs, hpa, rfl⟩ := Option.map_eq_some_iff.mp hp
  obtain ⟨h1, h2, h3⟩ := pickAll_spec S sv L vs hpa
  have hlen : sv.length = S.length := by have := congrArg List.length hty; rwa [List.length_map, List.length_map] at this
  rw [decodeStruct, ← h1, decode_encode_raw vs hsz]
  refine assign_eq S sv (L.zip vs) _ (by rw [List.length_map, hlen]) ?_ (fun k hk => Or.inr ?_)
  · -- every component is assigned to the field it was picked from
    intro p hp
    obtain ⟨j, hj1, hj2, hj3⟩ := ht.1 p.1 (List.of_mem_zip hp).1
    obtain ⟨j', hp1, hp2, _⟩ := pick_spec (h3 p hp)
    rw [hj2] at hp1; cases hp1
    exact ⟨j, hj1, hj3, hp2, jsonVal_ok _ (hu _ (List.mem_of_getElem? hp2))⟩
  · -- field k is covered by a component, whose pair in the zip assigns it
    obtain ⟨c, hcL, hcp⟩ := hc k (hlen ▸ hk)
    obtain ⟨j, hj1, hj2, _⟩ := ht.1 c hcL
    rw [hcp] at hj2; cases hj2
    obtain ⟨i, hi, hci⟩ := List.getElem_of_mem hcL
    exact ⟨(c, vs[i]'(h2 ▸ hi)),
      List.mem_of_getElem? (List.getElem?_zip_eq_some.mpr ⟨hci ▸ List.getElem?_eq_getElem hi, List.getElem?_eq_getElem _⟩), hj1⟩

end TM.C19
