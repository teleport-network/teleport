import TeleportModel.Model.Send
import TeleportModel.Lemmas.Outcome
/-
C04 — send sequencing (property theorems).

Each handler of `Model/Send.lean` is described once, by a case lemma on its guard chain (`sendPacket_ok`, `applyTx_cases`,
`callEvm_cases`, `recvCallback_eq`, `recv_cases`, `ack_state`, `createClient_state`). What the packet hook does to a
context is a sequence of successful `SendPacket`s (`Sends`, `hookP_sends`); the invariants `Core` and `Full` are shown
for one send, carried over `Sends` and through the handlers together (`Inv`), and the property theorems read them off
after a run.
-/
namespace TM.Send

/-- Case analysis on one guard with the motive written out (`split` is very slow on the handlers' `let` blocks). -/
theorem ite_ind {α} (P : α → Prop) {p : Prop} [Decidable p] {x y : α} (hx : p → P x) (hy : ¬p → P y) :
    P (if p then x else y) := by
  by_cases h : p
  · rw [if_pos h]; exact hx h
  · rw [if_neg h]; exact hy h

theorem ite_ne {α} {p : Prop} [Decidable p] {x y z : α} (hx : x ≠ z) (hy : y ≠ z) : (if p then x else y) ≠ z :=
  ite_ind (· ≠ z) (fun _ => hx) (fun _ => hy)

theorem of_not_bnot {b : Bool} (h : ¬(!b) = true) : b = true := by
  cases b
  · exact absurd rfl h
  · rfl

theorem sendPacket_ok {env : Env} {c c' : Chain} {p : Packet} (h : sendPacket env c p = .ok c') :
    validateBasic p = true ∧ p.src = c.self ∧ c.clients p.dst = true ∧ p.seq = chainNext c p.dst ∧
    p.seq + 1 < 2 ^ 64 ∧ (p.seq = c.cseq p.dst ∨ p.seq = contractNext c p.dst) ∧
    c' = { c with
      nextSeq := upd c.nextSeq p.dst (some (p.seq + 1)),
      cseq := upd c.cseq p.dst (p.seq + 1),
      commits := upd c.commits (p.dst, p.seq) (some (env.sha256 p.bytes)),
      sent := c.sent ++ [p] } := by
  simp only [sendPacket, ite_error_eq_ok] at h
  obtain ⟨h1, h2, h3, h4, h5, h6, h7⟩ := h
  exact ⟨of_not_bnot h1, Decidable.not_not.mp h2, of_not_bnot h3, Decidable.not_not.mp h4, Nat.lt_of_not_le h5,
    Decidable.not_not.mp h6, (Except.ok.inj h7).symm⟩

/-- `c'` is reached from `c` by the successful `SendPacket`s of `ps`, in this order. -/
inductive Sends (env : Env) : Chain → List Packet → Chain → Prop
  | nil (c : Chain) : Sends env c [] c
  | cons {c c1 c' : Chain} {p : Packet} {ps : List Packet} :
      sendPacket env c p = .ok c1 → Sends env c1 ps c' → Sends env c (p :: ps) c'

/-- the genuine sends of a log list -/
def sentOf : List Log → List Packet
  | [] => []
  | .sent p :: ls => p :: sentOf ls
  | _ :: ls => sentOf ls

theorem mem_sentOf {p : Packet} {logs : List Log} (h : Log.sent p ∈ logs) : p ∈ sentOf logs := by
  induction logs with
  | nil => cases h
  | cons l ls ih =>
    rcases List.mem_cons.mp h with rfl | h'
    · exact List.mem_cons_self ..
    · cases l <;> first | exact ih h' | exact List.mem_cons_of_mem _ (ih h')

/-- The hook performs the genuine sends of the receipt in log order and stops at the first error: the context it
returns is reached by a prefix of them — by all of them when it returns nil. -/
theorem hookP_sends (env : Env) (logs : List Log) (c : Chain) :
    ∃ ps, Sends env c ps (hookP env c logs).1 ∧ ps <+: sentOf logs ∧ ((hookP env c logs).2 = true → ps = sentOf logs) := by
  fun_induction hookP env c logs with
  | case1 c => exact ⟨[], .nil c, List.nil_prefix, fun _ => rfl⟩
  | case2 c ls ih => exact ih
  | case3 c ls | case4 c ls | case6 c p ls e hs => exact ⟨[], .nil c, List.nil_prefix, Bool.noConfusion⟩
  | case5 c p ls c1 hs ih =>
    obtain ⟨ps, hS, hpre, hall⟩ := ih
    exact ⟨p :: ps, .cons hs hS, (List.prefix_cons_inj p).mpr hpre, fun h => by rw [hall h]; rfl⟩

section
variable {env : Env} {c c' : Chain} {ps : List Packet}

theorem Sends.eq_of_nil (h : Sends env c [] c') : c' = c := by
  cases h; rfl

theorem Sends.frame (h : Sends env c ps c') :
    c'.self = c.self ∧ c'.clients = c.clients ∧ c'.sent = c.sent ++ ps := by
  induction h with
  | nil c => exact ⟨rfl, rfl, (List.append_nil _).symm⟩
  | cons hs _ ih =>
    obtain ⟨_, _, _, _, _, _, rfl⟩ := sendPacket_ok hs
    exact ⟨ih.1, ih.2.1, by rw [ih.2.2, List.append_assoc]; rfl⟩

theorem Sends.known (h : Sends env c ps c') :
    ∀ p ∈ ps, c.clients p.dst = true := by
  induction h with
  | nil c => exact fun _ hp => nomatch hp
  | cons hs hS ih =>
    intro q hq
    rcases List.mem_cons.mp hq with rfl | hq
    · exact (sendPacket_ok hs).2.2.1
    · obtain ⟨_, _, _, _, _, _, rfl⟩ := sendPacket_ok hs
      exact ih q hq

end

theorem lockOne_eq (c : Chain) (p : Packet) : ∃ e, lockOne c p = { c with escrow := e } := by
  unfold lockOne
  cases p.esc with
  | none => exact ⟨c.escrow, rfl⟩
  | some ta => exact ⟨_, rfl⟩

theorem evmCommit_eq_foldl (c : Chain) (logs : List Log) : evmCommit c logs = (sentOf logs).foldl lockOne c := by
  induction logs generalizing c with
  | nil => rfl
  | cons l ls ih => cases l <;> exact ih _

theorem evmCommit_eq (c : Chain) (logs : List Log) : ∃ e, evmCommit c logs = { c with escrow := e } := by
  rw [evmCommit_eq_foldl]
  induction sentOf logs generalizing c with
  | nil => exact ⟨c.escrow, rfl⟩
  | cons p ps ih =>
    obtain ⟨e1, h1⟩ := lockOne_eq c p
    obtain ⟨e2, h2⟩ := ih (lockOne c p)
    exact ⟨e2, by rw [List.foldl_cons, h2, h1]⟩

theorem applyTx_cases (env : Env) (c : Chain) (v : Bool) (logs : List Log) :
    ((applyTx env c v logs).1 = c ∧ (applyTx env c v logs).2 ≠ .ok) ∨
    ((applyTx env c v logs).2 = .ok ∧ ∃ e, evmCommit c logs = { c with escrow := e } ∧
      Sends env { c with escrow := e } (sentOf logs) (applyTx env c v logs).1) := by
  unfold applyTx
  cases v with
  | false => exact .inl ⟨rfl, Res.noConfusion⟩
  | true =>
    obtain ⟨e, he⟩ := evmCommit_eq c logs
    obtain ⟨ps, hS, _, hall⟩ := hookP_sends env logs (evmCommit c logs)
    rw [if_neg Bool.noConfusion]
    cases hk : hookP env (evmCommit c logs) logs with
    | mk c' ok =>
      rw [hk] at hS hall
      cases ok with
      | false => exact .inl ⟨rfl, Res.noConfusion⟩
      | true => exact .inr ⟨rfl, e, he, he ▸ hall rfl ▸ hS⟩

theorem callEvm_cases (env : Env) (c : Chain) (v : Bool) (logs : List Log) :
    (callEvm env c v logs).1 = c ∨
    ∃ e ps, evmCommit c logs = { c with escrow := e } ∧ ps <+: sentOf logs ∧
      Sends env { c with escrow := e } ps (callEvm env c v logs).1 := by
  unfold callEvm
  cases v with
  | false => exact .inl rfl
  | true =>
    obtain ⟨e, he⟩ := evmCommit_eq c logs
    obtain ⟨ps, hS, hpre, _⟩ := hookP_sends env logs (evmCommit c logs)
    exact .inr ⟨e, ps, he, hpre, he ▸ hS⟩

/-- what an accepted receive addressed to this chain writes besides the callback's effects: its receipt -/
def withReceipt (c : Chain) (p : Packet) : Chain := { c with receipts := upd c.receipts (p.src, p.dst, p.seq) true }

theorem recvStore_self (env : Env) (c : Chain) (p : Packet) (hd : p.dst = c.self) : recvStore env c p = withReceipt c p := by
  unfold recvStore
  exact if_neg fun h => h.1 hd

theorem recvCallback_eq (cfg : Cfg) (env : Env) (c2 : Chain) (r : RecvIn) :
    recvCallback cfg env c2 r =
      (if cfg.cbOnCctx = true ∧ ¬((callEvm env c2 r.cbVmOk r.cbLogs).2 = true ∧ r.cbCode = 0) then c2
        else (callEvm env c2 r.cbVmOk r.cbLogs).1,
       if (callEvm env c2 r.cbVmOk r.cbLogs).2 = true then .ackOk r.cbCode else .ackErr) := by
  unfold recvCallback
  cases callEvm env c2 r.cbVmOk r.cbLogs with
  | mk c3 ok =>
    cases ok with
    | false => cases cfg.cbOnCctx <;> rfl
    | true =>
      cases cfg.cbOnCctx with
      | false => rfl
      | true =>
        show (if r.cbCode = 0 then (c3, Res.ackOk 0) else (c2, Res.ackOk r.cbCode))
          = (if true = true ∧ ¬(true = true ∧ r.cbCode = 0) then c2 else c3, Res.ackOk r.cbCode)
        by_cases hk : r.cbCode = 0
        · rw [if_pos hk, if_neg fun h => h.2 ⟨rfl, hk⟩, hk]
        · rw [if_neg hk, if_pos ⟨rfl, fun h => hk h.2⟩]

theorem recv_cases (cfg : Cfg) (env : Env) (c : Chain) (r : RecvIn) :
    recv cfg env c r = (c, .err) ∨
    (validatePacket c r.p = true ∧ c.clients r.p.src = true ∧
      ((r.p.dst = c.self ∧ recv cfg env c r = recvCallback cfg env (withReceipt c r.p) r) ∨
       (r.p.dst ≠ c.self ∧ recv cfg env c r = (recvStore env c r.p, if c.clients r.p.dst then .ok else .ackNoRoute)))) := by
  have guard := @ite_ind (Chain × Res) fun x => x = (c, .err) ∨
    (validatePacket c r.p = true ∧ c.clients r.p.src = true ∧
      ((r.p.dst = c.self ∧ x = recvCallback cfg env (withReceipt c r.p) r) ∨
       (r.p.dst ≠ c.self ∧ x = (recvStore env c r.p, if c.clients r.p.dst then .ok else .ackNoRoute))))
  unfold recv
  refine guard (fun _ => .inl rfl) fun h1 => ?_
  refine guard (fun _ => .inl rfl) fun _ => ?_
  refine guard (fun _ => .inl rfl) fun h3 => ?_
  refine guard (fun _ => .inl rfl) fun _ => ?_
  refine guard (fun _ => .inl rfl) fun _ => ?_
  refine .inr ⟨of_not_bnot h1, of_not_bnot h3, ?_⟩
  by_cases hd : r.p.dst = c.self
  · exact .inl ⟨hd, by rw [if_pos hd, recvStore_self env c r.p hd]⟩
  · exact .inr ⟨hd, if_neg hd⟩

theorem ack_state (env : Env) (c : Chain) (a : AckIn) :
    (ack env c a).1 = c ∨
    ∃ e, (ack env c a).1 = { c with commits := upd c.commits (a.p.dst, a.p.seq) none,
                                     acked := (a.p.dst, a.p.seq) :: c.acked, escrow := e } := by
  have guard := @ite_ind (Chain × Res) fun x => x.1 = c ∨ ∃ e, x.1 = { c with
    commits := upd c.commits (a.p.dst, a.p.seq) none, acked := (a.p.dst, a.p.seq) :: c.acked, escrow := e }
  unfold ack
  iterate 7 refine guard (fun _ => .inl rfl) fun _ => ?_
  refine .inr (ite_ind (fun c2 : Chain => ∃ e, c2 = { c with
    commits := upd c.commits (a.p.dst, a.p.seq) none, acked := (a.p.dst, a.p.seq) :: c.acked, escrow := e })
    (fun _ => ⟨c.escrow, rfl⟩) fun _ => ?_)
  cases a.p.esc with
  | none => exact ⟨c.escrow, rfl⟩
  | some ta => exact ⟨_, rfl⟩

theorem createClient_state (cfg : Cfg) (c : Chain) (n : Bytes) :
    (createClient cfg c n).1 = c ∨
    (¬(cfg.rejectOwnName = true ∧ n = c.self) ∧ (createClient cfg c n).1 = { c with clients := upd c.clients n true }) := by
  unfold createClient
  by_cases h1 : (cfg.rejectOwnName && n == c.self) = true
  · exact .inl (by rw [if_pos h1])
  by_cases h2 : c.clients n = true
  · exact .inl (by rw [if_neg h1, if_pos h2])
  · exact .inr ⟨fun ⟨hr, hn⟩ => h1 (by rw [hr, hn, Bool.true_and]; exact bytes_beq.mpr rfl), by rw [if_neg h1, if_neg h2]⟩

/-! ### invariants: gap-freedom and agreement of the two counters -/

/-- successful sends towards `d`, oldest first -/
def sentTo (sent : List Packet) (d : Bytes) : List Packet := sent.filter (fun p => p.dst == d)

/-- Gap-freedom over a counter table and a list of sends (`GapFree` instantiates it at a chain).
`b d` = number of packets sent to `d` before the history started (0 on a chain whose counters start at 1, `n - 1`
when the history starts with the counter at `n`, 0 again after a software upgrade). It is a parameter of the
invariant, not a field of the state. -/
def GapFreeF (b : Bytes → Nat) (ns : Bytes → Option Nat) (sent : List Packet) : Prop :=
  ∀ d, (ns d).getD 1 = b d + (sentTo sent d).length + 1 ∧
       (sentTo sent d).map (·.seq) = List.range' (b d + 1) (sentTo sent d).length

/-- per destination: the chain counter is b+k+1 and the successful sends carried b+1, b+2, …, b+k in this order -/
def GapFree (b : Bytes → Nat) (c : Chain) : Prop := GapFreeF b c.nextSeq c.sent

def AgreeF (ns : Bytes → Option Nat) (cs : Bytes → Nat) : Prop :=
  ∀ d, (if cs d = 0 then 1 else cs d) = (ns d).getD 1

/-- chain counter = contract view, for every destination -/
def Agree (c : Chain) : Prop := AgreeF c.nextSeq c.cseq

structure Core (b : Bytes → Nat) (c : Chain) : Prop where
  gap : GapFree b c
  agree : Agree c

variable {b : Bytes → Nat}

theorem sentTo_append_same (sent : List Packet) (p : Packet) :
    sentTo (sent ++ [p]) p.dst = sentTo sent p.dst ++ [p] := by
  unfold sentTo
  rw [List.filter_append]
  exact congrArg _ (List.filter_cons_of_pos (bytes_beq.mpr rfl))

theorem sentTo_append_other (sent : List Packet) (p : Packet) (d : Bytes) (h : d ≠ p.dst) :
    sentTo (sent ++ [p]) d = sentTo sent d := by
  unfold sentTo
  rw [List.filter_append, List.filter_cons_of_neg (by rw [bytes_beq]; exact fun e => h e.symm)]
  exact List.append_nil _

theorem GapFreeF.nil {ns : Bytes → Option Nat} (h : ∀ d, (ns d).getD 1 = b d + 1) : GapFreeF b ns [] :=
  fun d => ⟨h d, rfl⟩

theorem GapFreeF.send {ns : Bytes → Option Nat} {sent : List Packet} {p : Packet} (g : GapFreeF b ns sent)
    (hseq : p.seq = (ns p.dst).getD 1) : GapFreeF b (upd ns p.dst (some (p.seq + 1))) (sent ++ [p]) := by
  intro d
  by_cases hd : d = p.dst
  · subst hd
    obtain ⟨g1, g2⟩ := g p.dst
    -- `p` carried `b + k + 1` and becomes the `k+1`-st send to its destination
    have hp : p.seq = b p.dst + (sentTo sent p.dst).length + 1 := hseq.trans g1
    rw [sentTo_append_same, upd_same, List.length_append, List.length_singleton, List.map_append, g2,
      List.range'_concat]
    exact ⟨by rw [hp]; rfl, by rw [Nat.one_mul, Nat.add_right_comm, ← hp]; rfl⟩
  · rw [sentTo_append_other _ _ _ hd, upd_other _ _ _ _ hd]
    exact g d

theorem AgreeF.send {ns : Bytes → Option Nat} {cs : Bytes → Nat} (h : AgreeF ns cs) (d : Bytes) (n : Nat) :
    AgreeF (upd ns d (some (n + 1))) (upd cs d (n + 1)) := by
  intro d'
  by_cases hd : d' = d
  · rw [hd, upd_same, upd_same]; exact if_neg (Nat.succ_ne_zero _)
  · rw [upd_other _ _ _ _ hd, upd_other _ _ _ _ hd]; exact h d'

theorem core_of_fields {c c' : Chain} (hc : Core b c) (h1 : c'.nextSeq = c.nextSeq) (h2 : c'.cseq = c.cseq)
    (h3 : c'.sent = c.sent) : Core b c' := by
  constructor
  · unfold GapFree; rw [h1, h3]; exact hc.gap
  · unfold Agree; rw [h1, h2]; exact hc.agree

/-- the upgrade handler leaves both counters of every destination unset (next = 1 on both sides) and restarts the
ghost list: the invariant (with base 0) holds afterwards whatever the state was before -/
theorem upgrade_core (c : Chain) : Core (fun _ => 0) (upgrade c).1 :=
  ⟨GapFreeF.nil fun _ => rfl, fun _ => rfl⟩

/-- how the base of the invariant evolves: an upgrade restarts the numbering, nothing else touches it -/
def baseStep (b : Bytes → Nat) : Op → (Bytes → Nat)
  | .upgrade => fun _ => 0
  | _ => b

def baseRun (b : Bytes → Nat) (ops : List Op) : Bytes → Nat := ops.foldl baseStep b

theorem baseRun_zero (ops : List Op) : baseRun (fun _ => 0) ops = fun _ => 0 := by
  induction ops with
  | nil => rfl
  | cons o os ih => cases o <;> exact ih

/-- base of a chain whose history starts with the counters `seqs` -/
def freshBase (seqs : List (Bytes × Nat)) : Bytes → Nat :=
  fun d => match seqs.find? (fun e => e.1 == d) with
    | some e => e.2 - 1
    | none => 0

theorem fresh_core (self : Bytes) (clients : List Bytes) (seqs : List (Bytes × Nat)) (h : ∀ e ∈ seqs, 1 ≤ e.2) :
    Core (freshBase seqs) (fresh self clients seqs) := by
  constructor
  · refine GapFreeF.nil fun d => ?_
    show (Option.map (·.2) (seqs.find? (fun e => e.1 == d))).getD 1 = freshBase seqs d + 1
    unfold freshBase
    cases hf : seqs.find? (fun e => e.1 == d) with
    | none => rfl
    | some e => exact (Nat.sub_add_cancel (h e (List.mem_of_find?_eq_some hf))).symm
  · intro d
    show (if (fresh self clients seqs).cseq d = 0 then 1 else (fresh self clients seqs).cseq d)
      = (Option.map (·.2) (seqs.find? (fun e => e.1 == d))).getD 1
    have hcs : (fresh self clients seqs).cseq d = (match seqs.find? (fun e => e.1 == d) with
      | some e => if e.2 = 1 then 0 else e.2
      | none => 0) := rfl
    rw [hcs]
    cases hf : seqs.find? (fun e => e.1 == d) with
    | none => rfl
    | some e =>
      have := h e (List.mem_of_find?_eq_some hf)
      show (if (if e.2 = 1 then 0 else e.2) = 0 then 1 else if e.2 = 1 then 0 else e.2) = e.2
      by_cases h1 : e.2 = 1
      · rw [if_pos h1, if_pos rfl, h1]
      · rw [if_neg h1, if_neg (Nat.ne_of_gt this)]

theorem freshBase_ones (seqs : List (Bytes × Nat)) (h : ∀ e ∈ seqs, e.2 = 1) : freshBase seqs = fun _ => 0 := by
  funext d
  unfold freshBase
  cases hf : seqs.find? (fun e => e.1 == d) with
  | none => rfl
  | some e => exact congrArg (· - 1) (h e (List.mem_of_find?_eq_some hf))

/-! ### invariants that need `self ∉ clients`: commitments come from sends only, every send stays committed -/

def FromSends (env : Env) (commits : Key → Option Bytes) (sent : List Packet) : Prop :=
  ∀ d i h, commits (d, i) = some h → ∃ p ∈ sent, p.dst = d ∧ p.seq = i ∧ h = env.sha256 p.bytes

def Committed (env : Env) (commits : Key → Option Bytes) (sent : List Packet) (acked : List Key) : Prop :=
  ∀ p ∈ sent, commits (p.dst, p.seq) = some (env.sha256 p.bytes) ∨ (p.dst, p.seq) ∈ acked

structure Full (b : Bytes → Nat) (env : Env) (c : Chain) : Prop where
  core : Core b c
  /-- no client under the chain's own name (not established by `HandleCreateClient` before fix 3b1567f) -/
  noself : c.clients c.self = false
  fromSends : FromSends env c.commits c.sent
  committed : Committed env c.commits c.sent c.acked

theorem sent_seq_lt {c : Chain} (hc : Core b c) {p : Packet} (hp : p ∈ c.sent) : p.seq < chainNext c p.dst := by
  obtain ⟨g1, g2⟩ := hc.gap p.dst
  have hm : p ∈ sentTo c.sent p.dst := List.mem_filter.mpr ⟨hp, bytes_beq.mpr rfl⟩
  have := List.mem_map_of_mem (f := (·.seq)) hm
  rw [g2, List.mem_range'_1] at this
  exact Nat.lt_of_lt_of_eq this.2 (by rw [chainNext, g1, Nat.add_right_comm])

section
variable {env : Env} {cm : Key → Option Bytes} {sent : List Packet} {acked : List Key}

theorem FromSends.send (h : FromSends env cm sent) (p : Packet) :
    FromSends env (upd cm (p.dst, p.seq) (some (env.sha256 p.bytes))) (sent ++ [p]) := by
  intro d i hh hci
  by_cases hk : (d, i) = (p.dst, p.seq)
  · cases hk
    rw [upd_same] at hci
    exact ⟨p, List.mem_append_right _ (List.mem_singleton_self p), rfl, rfl, (Option.some.inj hci).symm⟩
  · rw [upd_other _ _ _ _ hk] at hci
    obtain ⟨q, hq, h123⟩ := h d i hh hci
    exact ⟨q, List.mem_append_left _ hq, h123⟩

theorem Committed.send (h : Committed env cm sent acked) (p : Packet) (hnew : ∀ q ∈ sent, (q.dst, q.seq) ≠ (p.dst, p.seq)) :
    Committed env (upd cm (p.dst, p.seq) (some (env.sha256 p.bytes))) (sent ++ [p]) acked := by
  intro q hq
  rcases List.mem_append.mp hq with hq | hq
  · rw [upd_other _ _ _ _ (hnew q hq)]; exact h q hq
  · rw [List.mem_singleton.mp hq]; exact .inl (upd_same _ _ _)

theorem FromSends.ack (h : FromSends env cm sent) (k : Key) :
    FromSends env (upd cm k none) sent := by
  intro d i hh hci
  by_cases hk : (d, i) = k
  · rw [hk, upd_same] at hci; cases hci
  · rw [upd_other _ _ _ _ hk] at hci; exact h d i hh hci

theorem Committed.ack (h : Committed env cm sent acked) (k : Key) : Committed env (upd cm k none) sent (k :: acked) := by
  intro q hq
  by_cases hk : (q.dst, q.seq) = k
  · exact .inr (hk ▸ List.mem_cons_self ..)
  · rw [upd_other _ _ _ _ hk]
    exact (h q hq).imp_right (List.mem_cons_of_mem _)

end

/-- `Core`, and — when `full` holds — the part of `Full` that needs `self ∉ clients`: `Inv False` is `Core`, `Inv True` is
`Full`. Every handler is walked once, for both. -/
def Inv (full : Prop) (b : Bytes → Nat) (env : Env) (c : Chain) : Prop :=
  Core b c ∧ (full → c.clients c.self = false ∧ FromSends env c.commits c.sent ∧ Committed env c.commits c.sent c.acked)

section
variable {full : Prop} {cfg : Cfg} {env : Env} {c : Chain}

theorem sendPacket_inv {c' : Chain} {p : Packet} (hi : Inv full b env c) (h : sendPacket env c p = .ok c') :
    Inv full b env c' := by
  obtain ⟨_, _, _, hseq, _, _, rfl⟩ := sendPacket_ok h
  refine ⟨⟨hi.1.gap.send hseq, hi.1.agree.send _ _⟩, fun hf => ?_⟩
  obtain ⟨hn, hfs, hcm⟩ := hi.2 hf
  refine ⟨hn, hfs.send p, hcm.send p fun q hq e => ?_⟩
  -- every earlier send to `p.dst` carried a sequence below the counter, `p` carries the counter
  have hlt := sent_seq_lt hi.1 hq
  injection e with e1 e2
  rw [e1, e2, ← hseq] at hlt
  exact Nat.lt_irrefl _ hlt

theorem Sends.inv {c' : Chain} {ps : List Packet} (h : Sends env c ps c') (hi : Inv full b env c) :
    Inv full b env c' := by
  induction h with
  | nil c => exact hi
  | cons hs _ ih => exact ih (sendPacket_inv hi hs)

theorem inv_of_fields (e : Nat × Bytes → Int) (r : Triple → Bool) (hi : Inv full b env c) :
    Inv full b env { c with escrow := e, receipts := r } :=
  ⟨core_of_fields hi.1 rfl rfl rfl, hi.2⟩

theorem applyTx_inv (v : Bool) (logs : List Log) (hi : Inv full b env c) :
    Inv full b env (applyTx env c v logs).1 ∧ (applyTx env c v logs).1.self = c.self := by
  rcases applyTx_cases env c v logs with ⟨h, _⟩ | ⟨_, e, _, hS⟩
  · rw [h]; exact ⟨hi, rfl⟩
  · exact ⟨hS.inv (inv_of_fields e c.receipts hi), hS.frame.1⟩

theorem callEvm_inv (v : Bool) (logs : List Log) (hi : Inv full b env c) :
    Inv full b env (callEvm env c v logs).1 ∧ (callEvm env c v logs).1.self = c.self := by
  rcases callEvm_cases env c v logs with h | ⟨e, _, _, _, hS⟩
  · rw [h]; exact ⟨hi, rfl⟩
  · exact ⟨hS.inv (inv_of_fields e c.receipts hi), hS.frame.1⟩

/-- **The relay branch of `Keeper.RecvPacket` is unreachable without a client under the chain's own name**:
a packet that passed `ValidatePacket` and the source-client lookup has `dst = self`, so an accepted receive writes
only its receipt (no `commitments/self/…` key). -/
theorem relay_branch_unreachable (env : Env) (c : Chain) (p : Packet) (hns : c.clients c.self = false)
    (hv : validatePacket c p = true) (hcl : c.clients p.src = true) :
    p.dst = c.self ∧ recvStore env c p = { c with receipts := upd c.receipts (p.src, p.dst, p.seq) true } := by
  have hd : p.dst = c.self := by
    unfold validatePacket at hv
    simp only [Bool.and_eq_true, Bool.or_eq_true, bytes_beq] at hv
    rcases hv.2 with h | h
    · exact h
    · rw [h, hns] at hcl; cases hcl
  exact ⟨hd, recvStore_self env c p hd⟩

theorem recv_inv (r : RecvIn) (hi : Inv full b env c) :
    Inv full b env (recv cfg env c r).1 ∧ (recv cfg env c r).1.self = c.self := by
  rcases recv_cases cfg env c r with h | ⟨hv, hcl, ⟨_, h⟩ | ⟨hd, h⟩⟩ <;> rw [h]
  · exact ⟨hi, rfl⟩
  · rw [recvCallback_eq]
    have hi2 : Inv full b env (withReceipt c r.p) := inv_of_fields c.escrow _ hi
    exact ite_ind (fun c' => Inv full b env c' ∧ c'.self = c.self) (fun _ => ⟨hi2, rfl⟩) (fun _ => callEvm_inv _ _ hi2)
  · -- the relay branch writes a commitment: harmless for `Core`, excluded when `self ∉ clients`
    refine ⟨⟨?_, fun hf => absurd (relay_branch_unreachable env c r.p (hi.2 hf).1 hv hcl).1 hd⟩, ?_⟩
    all_goals unfold recvStore
    · exact ite_ind (Core b) (fun _ => core_of_fields hi.1 rfl rfl rfl) (fun _ => core_of_fields hi.1 rfl rfl rfl)
    · exact ite_ind (fun c' : Chain => c'.self = c.self) (fun _ => rfl) (fun _ => rfl)

theorem ack_inv (a : AckIn) (hi : Inv full b env c) :
    Inv full b env (ack env c a).1 ∧ (ack env c a).1.self = c.self := by
  rcases ack_state env c a with h | ⟨e, h⟩ <;> rw [h]
  · exact ⟨hi, rfl⟩
  · exact ⟨⟨core_of_fields hi.1 rfl rfl rfl, fun hf => let ⟨hn, hfs, hcm⟩ := hi.2 hf; ⟨hn, hfs.ack _, hcm.ack _⟩⟩, rfl⟩

theorem createClient_inv (n : Bytes) (hn : full → cfg.rejectOwnName = true ∨ n ≠ c.self)
    (hi : Inv full b env c) : Inv full b env (createClient cfg c n).1 ∧ (createClient cfg c n).1.self = c.self := by
  rcases createClient_state cfg c n with h | ⟨hg, h⟩ <;> rw [h]
  · exact ⟨hi, rfl⟩
  refine ⟨⟨core_of_fields hi.1 rfl rfl rfl, fun hf => ?_⟩, rfl⟩
  have hne : c.self ≠ n := fun e => hg ⟨(hn hf).resolve_right fun h => h e.symm, e.symm⟩
  exact ⟨(upd_other _ _ _ _ hne).trans (hi.2 hf).1, (hi.2 hf).2⟩

/-- the explicit hypothesis on histories: governance never registers a client under the chain's own name
(discharged by the code itself since fix 3b1567f, `HandleCreateClient` rejects the own name: `cfg.rejectOwnName`) -/
def OpOk (cfg : Cfg) (self : Bytes) : Op → Prop
  | .createClient n => cfg.rejectOwnName = true ∨ n ≠ self
  | _ => True

theorem opOk_hardened (cfg : Cfg) (h : cfg.rejectOwnName = true) (self : Bytes) (o : Op) : OpOk cfg self o := by
  cases o with
  | createClient n => exact .inl h
  | _ => exact trivial

theorem upgrade_inv (c : Chain) : Inv full (fun _ => 0) env (upgrade c).1 :=
  ⟨upgrade_core c, fun _ => ⟨rfl, (fun _ _ _ h => nomatch h), (fun _ h => nomatch h)⟩⟩

theorem step_inv (o : Op) (ho : full → OpOk cfg c.self o) (hi : Inv full b env c) :
    Inv full (baseStep b o) env (step cfg env c o).1 ∧ (step cfg env c o).1.self = c.self := by
  cases o with
  | discarded | restart => exact ⟨hi, rfl⟩
  | upgrade => exact ⟨upgrade_inv c, rfl⟩
  | tx v ls => exact applyTx_inv v ls hi
  | recv r => exact recv_inv r hi
  | ack a => exact ack_inv a hi
  | createClient n => exact createClient_inv n ho hi

theorem run_inv {cfg : Cfg} (ops : List Op) {b : Bytes → Nat} {c : Chain} (ho : full → ∀ o ∈ ops, OpOk cfg c.self o)
    (hi : Inv full b env c) : Inv full (baseRun b ops) env (run cfg env c ops) := by
  induction ops generalizing c b with
  | nil => exact hi
  | cons o os ih =>
    obtain ⟨h1, h2⟩ := step_inv (cfg := cfg) o (fun hf => ho hf o (List.mem_cons_self ..)) hi
    exact ih (fun hf o' ho' => h2 ▸ ho hf o' (List.mem_cons_of_mem _ ho')) h1

theorem run_core {cfg : Cfg} {env : Env} (ops : List Op) {b : Bytes → Nat} {c : Chain} (hc : Core b c) :
    Core (baseRun b ops) (run cfg env c ops) :=
  -- at `full := False` the `Full` part of `Inv` and the hypothesis on the history are vacuous
  (run_inv (full := False) ops False.elim ⟨hc, False.elim⟩).1

theorem full_iff_inv : Full b env c ↔ Inv True b env c :=
  ⟨fun h => ⟨h.core, fun _ => ⟨h.noself, h.fromSends, h.committed⟩⟩,
   fun ⟨hc, h⟩ => let ⟨hn, hfs, hcm⟩ := h trivial; ⟨hc, hn, hfs, hcm⟩⟩

theorem run_full {cfg : Cfg} {env : Env} (ops : List Op) {b : Bytes → Nat} {c : Chain}
    (ho : ∀ o ∈ ops, OpOk cfg c.self o)
    (hf : Full b env c) : Full (baseRun b ops) env (run cfg env c ops) :=
  full_iff_inv.mpr (run_inv ops (fun _ => ho) (full_iff_inv.mp hf))

end

/-- **Gap-free sequences.** After any history (user transactions with any mix of genuine / forged / malformed logs,
receives with nested sends, acknowledgements, client creations; repaired or unrepaired callback context) started on a
chain that satisfies the invariant with base `b`, for every destination the chain counter is `b' + k + 1`, where
`b' = baseRun b ops` is the base the history leaves (an upgrade resets it) and `k` is the number of recorded successful sends
to it, and the `i`-th of them (from 0) carried sequence `b' + i + 1`. -/
theorem seq_gap_free_from (cfg : Cfg) (env : Env) (c : Chain) (ops : List Op) (hc : Core b c) (d : Bytes) :
    let c' := run cfg env c ops
    let b' := baseRun b ops
    chainNext c' d = b' d + (sentTo c'.sent d).length + 1 ∧
    ∀ i (hi : i < (sentTo c'.sent d).length), ((sentTo c'.sent d)[i]).seq = b' d + i + 1 := by
  intro c' b'
  have g := (run_core (cfg := cfg) (env := env) ops hc).gap d
  refine ⟨g.1, fun i hi => ?_⟩
  have h2 := List.getElem_of_eq g.2 (by rw [List.length_map]; exact hi)
  rw [List.getElem_map, List.getElem_range'] at h2
  exact h2.trans (by rw [Nat.one_mul, Nat.add_right_comm])

/-- `seq_gap_free_from` for a chain on which nothing has been sent yet (counters absent or initialised to 1):
the counter is k+1 and the i-th successful send carried sequence i. -/
theorem seq_gap_free (cfg : Cfg) (env : Env) (self : Bytes) (clients : List Bytes) (seqs : List (Bytes × Nat))
    (h1 : ∀ e ∈ seqs, e.2 = 1) (ops : List Op) (d : Bytes) :
    let c' := run cfg env (fresh self clients seqs) ops
    chainNext c' d = (sentTo c'.sent d).length + 1 ∧
    ∀ i (hi : i < (sentTo c'.sent d).length), ((sentTo c'.sent d)[i]).seq = i + 1 := by
  have hc := fresh_core self clients seqs (fun e he => Nat.le_of_eq (h1 e he).symm)
  rw [freshBase_ones seqs h1] at hc
  have := seq_gap_free_from cfg env _ ops hc d
  simp only [baseRun_zero, Nat.zero_add] at this
  exact this

/-- **Boundary: a history that starts with the counter of a destination at any `n ≥ 1`** (a chain that has already sent
`n - 1` packets — near 2^63, at 2^64 - 2, …): as long as no upgrade intervenes the counter is `n + k` and the i-th
successful send carried `n + i - 1`. -/
theorem seq_gap_free_planted (cfg : Cfg) (env : Env) (self : Bytes) (clients : List Bytes) (seqs : List (Bytes × Nat))
    (h1 : ∀ e ∈ seqs, 1 ≤ e.2) (ops : List Op) (d : Bytes) :
    let c' := run cfg env (fresh self clients seqs) ops
    let b' := baseRun (freshBase seqs) ops
    chainNext c' d = b' d + (sentTo c'.sent d).length + 1 ∧
    ∀ i (hi : i < (sentTo c'.sent d).length), ((sentTo c'.sent d)[i]).seq = b' d + i + 1 :=
  seq_gap_free_from cfg env _ ops (fresh_core self clients seqs h1) d

/-- the uint64 counter never wraps: a successful send has `seq + 1 < 2^64` (at `seq = 2^64 - 1` the Go increment wraps
to 0 and the packet contract's `setSequence` rejects it, so `SendPacket` fails and the transaction is reverted) -/
theorem send_below_max {env : Env} {c c' : Chain} {p : Packet} (h : sendPacket env c p = .ok c') :
    p.seq + 1 < 2 ^ 64 :=
  (sendPacket_ok h).2.2.2.2.1

/-- What one user transaction does to the ghost list `sent`: committed, it appends its genuine `PacketSent` logs in log
order; failed, nothing. (`sent` also grows by the nested sends of receive callbacks, through `callEvm`.) -/
theorem tx_sends (env : Env) (c : Chain) (v : Bool) (logs : List Log) :
    (applyTx env c v logs).1.sent = c.sent ++ (if (applyTx env c v logs).2 = .ok then sentOf logs else []) := by
  rcases applyTx_cases env c v logs with ⟨h1, h2⟩ | ⟨hok, _, _, hS⟩
  · rw [h1, if_neg h2, List.append_nil]
  · rw [if_pos hok, hS.frame.2.2]

/-- **The chain counter and the packet contract's counter agree** for every destination after every history. -/
theorem counters_agree (cfg : Cfg) (env : Env) (c : Chain) (ops : List Op) (hc : Core b c) (d : Bytes) :
    contractNext (run cfg env c ops) d = chainNext (run cfg env c ops) d :=
  (run_core (cfg := cfg) (env := env) ops hc).agree d

/-- **One commitment per send** (keeper level): a successful `SendPacket` of `p` required `p.seq` to be the next
sequence, stores `sha256 p.bytes` under `(self, p.dst, p.seq)`, moves both counters of that destination to
`p.seq + 1`, and changes nothing else. -/
theorem one_commitment_send {env : Env} {c c' : Chain} {p : Packet} (h : sendPacket env c p = .ok c') :
    p.src = c.self ∧ p.seq = chainNext c p.dst ∧
    c'.commits (p.dst, p.seq) = some (env.sha256 p.bytes) ∧
    (∀ k, k ≠ (p.dst, p.seq) → c'.commits k = c.commits k) ∧
    chainNext c' p.dst = p.seq + 1 ∧ contractNext c' p.dst = p.seq + 1 ∧
    (∀ d, d ≠ p.dst → c'.nextSeq d = c.nextSeq d ∧ c'.cseq d = c.cseq d) ∧
    c'.escrow = c.escrow ∧ c'.receipts = c.receipts ∧ c'.clients = c.clients ∧ c'.self = c.self ∧
    c'.acked = c.acked ∧ c'.sent = c.sent ++ [p] := by
  obtain ⟨_, hsrc, _, hseq, _, _, rfl⟩ := sendPacket_ok h
  refine ⟨hsrc, hseq, by simp, fun k hk => upd_other _ _ _ _ hk, by simp [chainNext], by simp [contractNext],
    fun d hd => ⟨upd_other _ _ _ _ hd, upd_other _ _ _ _ hd⟩, rfl, rfl, rfl, rfl, rfl, rfl⟩

/-- **One commitment per send** (transaction level): a committed user transaction whose only genuine `PacketSent`
log is `p` (any number of look-alike logs around it) leaves `commits (self, p.dst, p.seq) = sha256 p.bytes`,
changes no other commitment, no counter of another destination, no receipt, and no escrow beyond the lock of that call. -/
theorem one_commitment (env : Env) (c : Chain) (logs : List Log) (p : Packet) (hl : sentOf logs = [p])
    (hok : (applyTx env c true logs).2 = .ok) :
    let c' := (applyTx env c true logs).1
    p.seq = chainNext c p.dst ∧
    c'.commits (p.dst, p.seq) = some (env.sha256 p.bytes) ∧
    (∀ k, k ≠ (p.dst, p.seq) → c'.commits k = c.commits k) ∧
    chainNext c' p.dst = p.seq + 1 ∧ contractNext c' p.dst = p.seq + 1 ∧
    (∀ d, d ≠ p.dst → c'.nextSeq d = c.nextSeq d ∧ c'.cseq d = c.cseq d) ∧
    c'.escrow = (lockOne c p).escrow ∧ c'.receipts = c.receipts ∧ c'.sent = c.sent ++ [p] := by
  intro c'
  rcases applyTx_cases env c true logs with ⟨_, h2⟩ | ⟨_, e, he, hS⟩
  · exact absurd hok h2
  -- the EVM state is the lock of `p`, and the hook's run is the one `SendPacket` of `p` on it
  rw [evmCommit_eq_foldl, hl] at he
  rw [hl] at hS
  rw [show lockOne c p = _ from he]
  cases hS with
  | cons hs hnil =>
    cases hnil
    obtain ⟨_, h2, h3, h4, h5, h6, h7, h8, h9, _, _, _, h13⟩ := one_commitment_send hs
    exact ⟨h2, h3, h4, h5, h6, h7, h8, h9, h13⟩

/-- Under the invariant (in particular `self ∉ clients`) the slot a send writes was empty: commitments are never
overwritten by a send. -/
theorem commitment_slot_fresh {env : Env} {c c' : Chain} {p : Packet} (hf : Full b env c)
    (h : sendPacket env c p = .ok c') : c.commits (p.dst, p.seq) = none := by
  have hseq := (sendPacket_ok h).2.2.2.1
  cases hc : c.commits (p.dst, p.seq) with
  | none => rfl
  | some hh =>
    obtain ⟨q, hq, h1, h2, _⟩ := hf.fromSends p.dst p.seq hh hc
    have := sent_seq_lt hf.core hq
    rw [h1, h2, ← hseq] at this
    exact absurd this (Nat.lt_irrefl _)

/-- **Committed sequences are exactly the sent ones** (needs `self ∉ clients` and histories that never create a
client under the chain's own name): after any such history every stored commitment `(d, i)` is the hash of the bytes
of the `i`-th successful send to `d` (`i ≤ k`), and every successful send still has its commitment unless an accepted
acknowledgement removed it. -/
theorem commitments_exact (cfg : Cfg) (env : Env) (c : Chain) (ops : List Op) (hf : Full b env c)
    (ho : ∀ o ∈ ops, OpOk cfg c.self o) :
    let c' := run cfg env c ops
    (∀ d i h, c'.commits (d, i) = some h → ∃ p ∈ c'.sent, p.dst = d ∧ p.seq = i ∧ h = env.sha256 p.bytes ∧ i < chainNext c' d) ∧
    (∀ p ∈ c'.sent, c'.commits (p.dst, p.seq) = some (env.sha256 p.bytes) ∨ (p.dst, p.seq) ∈ c'.acked) := by
  intro c'
  have hf' := run_full (cfg := cfg) ops ho hf
  refine ⟨fun d i h hc => ?_, hf'.committed⟩
  obtain ⟨p, hp, rfl, rfl, h3⟩ := hf'.fromSends d i h hc
  exact ⟨p, hp, rfl, rfl, h3, sent_seq_lt hf'.core hp⟩

/-- `commitments_exact` without any hypothesis on the history when `HandleCreateClient` rejects the own name (the tree
since fix 3b1567f). -/
theorem commitments_exact_hardened (cfg : Cfg) (hh : cfg.rejectOwnName = true) (env : Env) (c : Chain) (ops : List Op)
    (hf : Full b env c) :
    let c' := run cfg env c ops
    (∀ d i h, c'.commits (d, i) = some h → ∃ p ∈ c'.sent, p.dst = d ∧ p.seq = i ∧ h = env.sha256 p.bytes ∧ i < chainNext c' d) ∧
    (∀ p ∈ c'.sent, c'.commits (p.dst, p.seq) = some (env.sha256 p.bytes) ∨ (p.dst, p.seq) ∈ c'.acked) :=
  commitments_exact cfg env c ops hf (fun o _ => opOk_hardened cfg hh c.self o)

/-- **A failed transaction changes nothing** — VM failure or any failing post-processing hook (unknown destination,
wrong sequence, malformed packet, undecodable payload, source ≠ self): store, both counters, escrow, ghost lists. -/
theorem failed_send_noop (env : Env) (c : Chain) (v : Bool) (logs : List Log)
    (h : (applyTx env c v logs).2 ≠ .ok) : (applyTx env c v logs).1 = c := by
  rcases applyTx_cases env c v logs with ⟨h1, _⟩ | ⟨hok, _⟩
  · exact h1
  · exact absurd hok h

theorem callEvm_nosent (env : Env) (c : Chain) (v : Bool) (logs : List Log) (hn : sentOf logs = []) :
    (callEvm env c v logs).1 = c := by
  rcases callEvm_cases env c v logs with h | ⟨e, ps, he, hpre, hS⟩
  · exact h
  · rw [hn, List.prefix_nil] at hpre
    rw [evmCommit_eq_foldl, hn] at he
    rw [hpre, ← show c = _ from he] at hS
    exact hS.eq_of_nil

/-- **A failed nested send changes nothing** (module-call path, callback on `cctx`: the tree since fix 83c762f): when the receive callback
fails — EVM failure, or a nested `crossChainCall` whose `SendPacket` fails in the hook — or returns a non-zero result
code, the state after the receive is the state before it plus the receipt: no counter, commitment or escrow change. -/
theorem failed_nested_send_noop (cfg : Cfg) (env : Env) (c : Chain) (r : RecvIn) (hfix : cfg.cbOnCctx = true)
    (h : (recv cfg env c r).2 = .ackErr ∨ ∃ k, k ≠ 0 ∧ (recv cfg env c r).2 = .ackOk k) :
    (recv cfg env c r).1 = withReceipt c r.p := by
  rcases recv_cases cfg env c r with he | ⟨_, _, ⟨_, he⟩ | ⟨_, he⟩⟩ <;> rw [he] at h ⊢
  · rcases h with h | ⟨_, _, h⟩ <;> cases h
  · -- the callback's writes are kept only if the module call succeeded and returned code 0
    have hq : ¬((callEvm env (withReceipt c r.p) r.cbVmOk r.cbLogs).2 = true ∧ r.cbCode = 0) := by
      intro ⟨h1, h2⟩
      rw [recvCallback_eq, if_pos h1, h2] at h
      rcases h with h | ⟨k, hk, h⟩
      · cases h
      · injection h with h; exact hk h.symm
    rw [recvCallback_eq, if_pos ⟨hfix, hq⟩]
  · rcases h with h | ⟨_, _, h⟩ <;> exact absurd h (ite_ne Res.noConfusion Res.noConfusion)

/-- The tree before fix 83c762f (F1, callback on `ctx`): the same conclusion, for `ackErr`, holds when the callback emitted
no genuine `PacketSent` log. `failed_nested_send_noop` with `cbOnCctx = false` is FALSE — witness below. -/
theorem failed_nested_send_noop_partial (cfg : Cfg) (env : Env) (c : Chain) (r : RecvIn)
    (hn : sentOf r.cbLogs = []) (h : (recv cfg env c r).2 = .ackErr) :
    (recv cfg env c r).1 = withReceipt c r.p := by
  rcases recv_cases cfg env c r with he | ⟨_, _, ⟨_, he⟩ | ⟨_, he⟩⟩ <;> rw [he] at h ⊢
  · cases h
  · rw [recvCallback_eq, callEvm_nosent env _ _ _ hn]
    exact ite_ind (· = withReceipt c r.p) (fun _ => rfl) (fun _ => rfl)
  · exact absurd h (ite_ne Res.noConfusion Res.noConfusion)

theorem rejected_recv_noop (cfg : Cfg) (env : Env) (c : Chain) (r : RecvIn) (h : (recv cfg env c r).2 = .err) :
    (recv cfg env c r).1 = c := by
  rcases recv_cases cfg env c r with he | ⟨_, _, ⟨_, he⟩ | ⟨_, he⟩⟩ <;> rw [he] at h ⊢
  · rw [recvCallback_eq] at h
    exact absurd h (ite_ne Res.noConfusion Res.noConfusion)
  · exact absurd h (ite_ne Res.noConfusion Res.noConfusion)

/-! ### software upgrade (`app/upgrades.go`, handler `v0.2`) -/

theorem upgrade_resets (c : Chain) (d : Bytes) (k : Key) (t : Triple) :
    chainNext (upgrade c).1 d = 1 ∧ contractNext (upgrade c).1 d = 1 ∧ (upgrade c).1.commits k = none ∧
    (upgrade c).1.receipts t = false ∧ (upgrade c).1.clients d = false ∧ (upgrade c).1.escrow = c.escrow ∧
    (upgrade c).1.sent = [] :=
  ⟨rfl, rfl, rfl, rfl, rfl, rfl, rfl⟩

/-- **The two counters are one counter in every reachable state, upgrades included**: `counters_agree` and
`seq_gap_free_from` quantify over op lists that contain `Op.upgrade` at arbitrary positions (it is a constructor of
`Op`); this corollary says more — the handler *re-establishes* the invariant from ANY state (no hypothesis on `c`), so
after an upgrade followed by any history the chain counter equals the contract counter and the sends since the upgrade
are numbered 1, 2, … per destination. -/
theorem counters_agree_after_upgrade (cfg : Cfg) (env : Env) (c : Chain) (post : List Op) (d : Bytes) :
    let c' := run cfg env c (.upgrade :: post)
    contractNext c' d = chainNext c' d ∧
    chainNext c' d = (sentTo c'.sent d).length + 1 ∧
    ∀ i (hi : i < (sentTo c'.sent d).length), ((sentTo c'.sent d)[i]).seq = i + 1 := by
  intro c'
  refine ⟨counters_agree cfg env _ post (upgrade_core c) d, ?_⟩
  have := seq_gap_free_from cfg env _ post (upgrade_core c) d
  simp only [baseRun_zero, Nat.zero_add] at this
  exact this

/-- commitments after an upgrade are exactly those of the sends since the upgrade (again from ANY state before it) -/
theorem commitments_exact_after_upgrade (cfg : Cfg) (env : Env) (c : Chain) (post : List Op)
    (ho : ∀ o ∈ post, OpOk cfg c.self o) :
    let c' := run cfg env c (.upgrade :: post)
    (∀ d i h, c'.commits (d, i) = some h → ∃ p ∈ c'.sent, p.dst = d ∧ p.seq = i ∧ h = env.sha256 p.bytes ∧ i < chainNext c' d) ∧
    (∀ p ∈ c'.sent, c'.commits (p.dst, p.seq) = some (env.sha256 p.bytes) ∨ (p.dst, p.seq) ∈ c'.acked) :=
  commitments_exact cfg env (upgrade c).1 post (full_iff_inv.mpr (upgrade_inv c)) ho

/-- **A successful send carries the value of BOTH counters** (and, by `one_commitment_send`, leaves exactly one
commitment and moves both to `seq + 1`) — in every state satisfying the invariant, hence in every reachable state,
before or after any number of upgrades. -/
theorem send_seq_is_both_counters {env : Env} {c c' : Chain} {p : Packet} (hc : Core b c)
    (h : sendPacket env c p = .ok c') :
    p.seq = chainNext c p.dst ∧ p.seq = contractNext c p.dst ∧
    chainNext c' p.dst = p.seq + 1 ∧ contractNext c' p.dst = p.seq + 1 ∧
    c'.commits (p.dst, p.seq) = some (env.sha256 p.bytes) := by
  obtain ⟨_, h2, h3, _, h5, h6, _⟩ := one_commitment_send h
  exact ⟨h2, by rw [h2]; exact (hc.agree p.dst).symm, h5, h6, h3⟩

/-- **A restart from exported state is the identity** — by definition of `restart`: the model takes export-then-import to be
lossless (chain and contract counters, commitments, receipts, clients, escrow; unlike an upgrade the numbering of sends
continues). This restates that modelling decision; what holds the real export → `NewTeleport` → `InitChain` to it is the
differential run. -/
theorem restart_identity (cfg : Cfg) (env : Env) (c : Chain) :
    (step cfg env c .restart).1 = c ∧ (step cfg env c .restart).2 = .ok := ⟨rfl, rfl⟩

theorem run_append (cfg : Cfg) (env : Env) (c : Chain) (pre post : List Op) :
    run cfg env c (pre ++ post) = run cfg env (run cfg env c pre) post := by
  induction pre generalizing c with
  | nil => rfl
  | cons o os ih => exact ih _

/-- a restart spliced in anywhere changes no reachable state: the history with the restart ends in exactly the state of
the history without it -/
theorem restart_transparent (cfg : Cfg) (env : Env) (c : Chain) (pre post : List Op) :
    run cfg env c (pre ++ .restart :: post) = run cfg env c (pre ++ post) := by
  rw [run_append, run_append]; rfl

/-- **Sequencing continues across restarts**: `seq_gap_free_from`, `counters_agree`, `commitments_exact` quantify over
op lists containing `Op.restart` anywhere (constructor of `Op`; the inductions have its case); spelled out for one
restart: after `pre`, a restart and `post`, the counter of `d` is (all successful sends to `d`, before AND after the
restart — the ghost list and the base are those of the history without the restart) + base + 1, the i-th of them
carried base + i (base = 0 for counters that started at 1), and the two counters agree. -/
theorem sequencing_across_restart (cfg : Cfg) (env : Env) (c : Chain) (pre post : List Op) (hc : Core b c) (d : Bytes) :
    let c' := run cfg env c (pre ++ .restart :: post)
    let b' := baseRun b (pre ++ .restart :: post)
    contractNext c' d = chainNext c' d ∧
    chainNext c' d = b' d + (sentTo c'.sent d).length + 1 ∧
    (∀ i (hi : i < (sentTo c'.sent d).length), ((sentTo c'.sent d)[i]).seq = b' d + i + 1) ∧
    c' = run cfg env c (pre ++ post) ∧ b' = baseRun b (pre ++ post) := by
  intro c' b'
  exact ⟨counters_agree cfg env c _ hc d, (seq_gap_free_from cfg env c _ hc d).1, (seq_gap_free_from cfg env c _ hc d).2,
    restart_transparent cfg env c pre post, List.foldl_append.trans (List.foldl_append (l' := post)).symm⟩

/-- **A handler run on a dropped context is the identity** (Simulate, CheckTx, a dry run, a failed multi-message
transaction) — by definition of `Op.discarded`; the first conjunct restates that modelling decision (the oracle
`C04:discarded-execution-left-trace` checks it on the real chain), the second splices it out of a history. -/
theorem discarded_identity (cfg : Cfg) (env : Env) (c : Chain) (pre post : List Op) :
    (step cfg env c .discarded).1 = c ∧
    run cfg env c (pre ++ .discarded :: post) = run cfg env c (pre ++ post) := by
  refine ⟨rfl, ?_⟩
  rw [run_append, run_append]; rfl

theorem Sends.frame_dst {env : Env} {c c' : Chain} {ps : List Packet} (h : Sends env c ps c') (d : Bytes)
    (hd : ∀ p ∈ ps, p.dst ≠ d) :
    c'.nextSeq d = c.nextSeq d ∧ c'.cseq d = c.cseq d ∧ ∀ i, c'.commits (d, i) = c.commits (d, i) := by
  induction h with
  | nil c => exact ⟨rfl, rfl, fun _ => rfl⟩
  | cons hs _ ih =>
    obtain ⟨h1, h2, h3⟩ := ih fun q hq => hd q (List.mem_cons_of_mem _ hq)
    have hp : d ≠ _ := fun e => hd _ (List.mem_cons_self ..) e.symm
    obtain ⟨_, _, _, hk, _, _, hf, _⟩ := one_commitment_send hs
    exact ⟨h1.trans (hf d hp).1, h2.trans (hf d hp).2, fun i => (h3 i).trans (hk _ fun e => hp (congrArg Prod.fst e))⟩

theorem hookP_frame {env : Env} (logs : List Log) {c : Chain} (d : Bytes) (hd : ∀ p ∈ sentOf logs, p.dst ≠ d) :
    (hookP env c logs).1.nextSeq d = c.nextSeq d ∧ (hookP env c logs).1.cseq d = c.cseq d ∧
    ∀ i, (hookP env c logs).1.commits (d, i) = c.commits (d, i) :=
  let ⟨_, hS, hpre, _⟩ := hookP_sends env logs c
  hS.frame_dst d fun p hp => hd p (hpre.subset hp)

/-- **Frame**: a transaction none of whose genuine sends goes to `d` changes neither counter of `d`
nor any commitment under `d` — destinations do not leak into each other, however their names are related
(prefixes, case siblings: the keys are compared as byte strings). -/
theorem tx_frame (env : Env) (c : Chain) (v : Bool) (logs : List Log) (d : Bytes)
    (hd : ∀ p ∈ sentOf logs, p.dst ≠ d) :
    let c' := (applyTx env c v logs).1
    chainNext c' d = chainNext c d ∧ contractNext c' d = contractNext c d ∧ ∀ i, c'.commits (d, i) = c.commits (d, i) := by
  intro c'
  rcases applyTx_cases env c v logs with ⟨h, _⟩ | ⟨_, _, _, hS⟩
  · rw [show c' = c from h]; exact ⟨rfl, rfl, fun _ => rfl⟩
  · obtain ⟨h1, h2, h3⟩ := hS.frame_dst d hd
    unfold chainNext contractNext
    rw [h1, h2]
    exact ⟨rfl, rfl, h3⟩

/-- The hook decodes the emitted payload and `SendPacket` commits to the RE-ENCODED packet (`CommitPacket(decode raw)`).
`reenc raw` = `ABIPack (ABIDecode raw)`. -/
structure Codec where
  reenc : Bytes → Option Bytes

/-- the round trip the commitment silently relies on: re-encoding the decoded payload gives the emitted bytes back -/
def RoundTrip (k : Codec) (raw : Bytes) : Prop := k.reenc raw = some raw

/-- **The commitment of a successful send is the hash of the bytes the packet contract emitted** — under the explicit
hypothesis that decode-then-encode is the identity on that payload (`RoundTrip`). `hdec` and `hrt` together say
`p.bytes = raw`, so this is `one_commitment_send` read for `raw`; the content is the discharge of `RoundTrip` for the
generated ABI tuple and JSON schema of the packet in `Proofs/C04Codec.lean` (from the C19 theorem `packet_decode_encode`). -/
theorem send_commitment_is_hash_of_emitted {env : Env} {c c' : Chain} {p : Packet} (k : Codec) (raw : Bytes)
    (hdec : k.reenc raw = some p.bytes) (hrt : RoundTrip k raw) (h : sendPacket env c p = .ok c') :
    c'.commits (p.dst, p.seq) = some (env.sha256 raw) := by
  rw [show raw = p.bytes from Option.some.inj ((Eq.symm hrt).trans hdec)]
  exact (one_commitment_send h).2.2.1

/-- When the re-encoded packet hashes differently from the emitted bytes (e.g. a tuple component renamed so that the JSON
round trip drops `fee_option`), the stored commitment is not the hash of the emitted bytes. `RoundTrip` does not occur:
the hypothesis is the inequality of the two hashes, and `hdec` is not used. -/
theorem commitment_not_emitted_without_roundtrip {env : Env} {c c' : Chain} {p : Packet} (k : Codec) (raw : Bytes)
    (hdec : k.reenc raw = some p.bytes) (hne : env.sha256 p.bytes ≠ env.sha256 raw) (h : sendPacket env c p = .ok c') :
    c'.commits (p.dst, p.seq) ≠ some (env.sha256 raw) := by
  rw [(one_commitment_send h).2.2.1]
  exact fun e => hne (Option.some.inj e)

/-! ### the other hooks of the chain (staking, gov, aggregate run BEFORE the packet hook on the same receipt) -/

/-- A hook earlier in ethermint's `MultiEvmHooks` chain, as far as the packet hook is concerned: `view ls` is what the
SHARED receipt's log list holds after the hook ran on `ls` (Go slices alias: a hook that filters "in place" —
`logs := receipt.Logs[:0]; logs = append(logs, log)` — overwrites entries of the receipt the later hooks read),
`ok ls` whether it returned nil. -/
structure OtherHook where
  view : List Log → List Log
  ok : List Log → Bool

/-- the hook only reads the receipt -/
def ReadOnly (h : OtherHook) : Prop := ∀ ls, h.view ls = ls

/-- the log list the packet hook receives after the earlier hooks of the chain -/
def chainView (hs : List OtherHook) (ls : List Log) : List Log := hs.foldl (fun l h => h.view l) ls

/-- every earlier hook returned nil (each on the list as its predecessors left it) -/
def chainOk : List OtherHook → List Log → Bool
  | [], _ => true
  | h :: hs, ls => h.ok ls && chainOk hs (h.view ls)

/-- `ApplyTransaction` with the whole hook chain: the EVM state committed is that of the logs the EVM produced; the
packet hook consumes the receipt as the earlier hooks left it; any hook error reverts the transaction. -/
def applyTxChain (env : Env) (c : Chain) (hs : List OtherHook) (vmOk : Bool) (logs : List Log) : Chain × Res :=
  if !vmOk then (c, .vmFailed)
  else if !chainOk hs logs then (c, .hookFailed)
  else
    match hookP env (evmCommit c logs) (chainView hs logs) with
    | (c', true) => (c', .ok)
    | (_, false) => (c, .hookFailed)

theorem chainView_readOnly (hs : List OtherHook) (hro : ∀ h ∈ hs, ReadOnly h) (ls : List Log) : chainView hs ls = ls := by
  induction hs generalizing ls with
  | nil => rfl
  | cons h t ih =>
    show chainView t (h.view ls) = ls
    rw [hro h (List.mem_cons_self ..), ih fun x hx => hro x (List.mem_cons_of_mem _ hx)]

/-- **Other hooks do not hide sends**: if every hook earlier in the chain only reads the receipt (and returns nil), the
packet hook sees exactly the log list the EVM produced — the transaction behaves as `applyTx` says, so every
`PacketSent` log of the packet contract in the receipt gets its `SendPacket` (commitment, both counters), wherever the
other system contracts' logs stand in the receipt. The hypothesis is a statement about Go slice aliasing in
`adapter/*/hooks.go` and `x/*/keeper/evm_hooks.go`; it is checked on the source by the harness
(`C04:hook-modifies-shared-receipt`) and behaviourally by the mixed-receipt transactions. -/
theorem other_hooks_do_not_hide_sends (env : Env) (c : Chain) (hs : List OtherHook) (v : Bool) (logs : List Log)
    (hro : ∀ h ∈ hs, ReadOnly h) (hok : chainOk hs logs = true) :
    applyTxChain env c hs v logs = applyTx env c v logs := by
  unfold applyTxChain applyTx
  rw [chainView_readOnly hs hro logs, hok]
  cases v <;> rfl

/-! ### "destination is known" ⇔ a client with EXACTLY this name exists -/

/-- the client lookup of the model is exact-string: creating a client named `n` makes `n` — and no other byte string,
in particular no case variant, prefix or extension of it — a known destination -/
theorem client_lookup_exact (cfg : Cfg) (c : Chain) (n d : Bytes) (hd : d ≠ n) :
    (createClient cfg c n).1.clients d = c.clients d := by
  rcases createClient_state cfg c n with h | ⟨_, h⟩ <;> rw [h]
  exact upd_other _ _ _ _ hd

theorem hookP_clients {env : Env} (logs : List Log) {c : Chain} : (hookP env c logs).1.clients = c.clients :=
  let ⟨_, hS, _⟩ := hookP_sends env logs c
  hS.frame.2.1

theorem hookP_unknown_dest_fails {env : Env} (logs : List Log) {c : Chain} {p : Packet} (hp : Log.sent p ∈ logs)
    (hcl : c.clients p.dst = false) : (hookP env c logs).2 = false := by
  cases hok : (hookP env c logs).2 with
  | false => rfl
  | true =>
    -- a hook that returned nil performed every genuine send of the receipt, `p` among them
    obtain ⟨ps, hS, _, hall⟩ := hookP_sends env logs c
    have := hS.known p (hall hok ▸ mem_sentOf hp)
    rw [hcl] at this; cases this

/-- **A send to a destination without a client of exactly that name changes nothing**: a transaction whose receipt
contains a genuine `PacketSent` for `p.dst` while no client named `p.dst` exists is not committed — no commitment, no
counter on either side, no escrow, whatever else the receipt contains and however close `p.dst` is to the name of an
existing client. -/
theorem send_unknown_dest_changes_nothing (env : Env) (c : Chain) (v : Bool) (logs : List Log) (p : Packet)
    (hp : Log.sent p ∈ logs) (hcl : c.clients p.dst = false) :
    (applyTx env c v logs).1 = c ∧ (applyTx env c v logs).2 ≠ .ok := by
  rcases applyTx_cases env c v logs with h | ⟨_, _, _, hS⟩
  · exact h
  · -- a committed transaction performed every genuine send of the receipt, so `p.dst` had a client
    exact Bool.noConfusion (hcl.symm.trans (hS.known p (mem_sentOf hp)))

/-- **Sequence lines are independent of other names**: a successful send to `d` moves no counter (chain side or
contract side) and touches no commitment of any `d' ≠ d` — byte-string inequality, so case variants, prefixes and
extensions of `d` are other lines. -/
theorem sequence_lines_independent_of_other_names {env : Env} {c c' : Chain} {p : Packet}
    (h : sendPacket env c p = .ok c') (d' : Bytes) (hd : d' ≠ p.dst) :
    chainNext c' d' = chainNext c d' ∧ contractNext c' d' = contractNext c d' ∧
    (∀ i, c'.commits (d', i) = c.commits (d', i)) ∧ c'.clients = c.clients := by
  obtain ⟨_, _, _, hk, _, _, hf, _, _, hcl, _⟩ := one_commitment_send h
  refine ⟨congrArg (Option.getD · 1) (hf d' hd).1, ?_, fun i => hk (d', i) fun e => hd (congrArg Prod.fst e), hcl⟩
  unfold contractNext; rw [(hf d' hd).2]

section Examples

def envId : Env := { sha256 := fun b => 0xAA :: b }
def nA : Bytes := [65]
def nB : Bytes := [66]
def nC : Bytes := [67]
def nD : Bytes := [68]
def pk (dst : Bytes) (seq : Nat) : Packet := { src := nA, dst := dst, seq := seq, hasData := true, bytes := [1, 2, 3] ++ dst, esc := some (0, 10) }
def c0 : Chain := fresh nA [nB, nC] [(nB, 1)]

/-- the hypotheses of the theorems are satisfiable on a non-trivial state -/
example : Full (freshBase [(nB, 1)]) envId c0 :=
  -- `c0` holds no commitment and has sent nothing
  ⟨fresh_core nA [nB, nC] [(nB, 1)] (fun e he => by rw [List.mem_singleton.mp he]; exact Nat.le_refl 1), rfl,
    (fun _ _ _ h => nomatch h), (fun _ h => nomatch h)⟩

/-- two sends in one transaction to different destinations commit; a second send to the SAME destination in one
transaction carries the same sequence (the contract does not count) and reverts the whole transaction -/
example : (applyTx envId c0 true [.sent (pk nB 1), .other, .sent (pk nC 1)]).2 = .ok := by decide +kernel
example : chainNext (applyTx envId c0 true [.sent (pk nB 1), .other, .sent (pk nC 1)]).1 nC = 2 := by decide +kernel
example : (applyTx envId c0 true [.sent (pk nB 1), .sent (pk nB 1)]).2 = .hookFailed := by decide +kernel
example : (applyTx envId c0 true [.sent (pk nB 1), .sent (pk nD 1)]).2 = .hookFailed := by decide +kernel
example : (applyTx envId c0 true [.sent (pk nB 2)]).2 = .hookFailed := by decide +kernel

def rNested : RecvIn :=
  { p := { src := nB, dst := nA, seq := 1, hasData := true, bytes := [9], esc := none },
    verifyOk := true, relayerFound := true, cbVmOk := true, cbLogs := [.sent (pk nC 1), .sent (pk nD 1)], cbCode := 0 }

/-- **F1 on the sequencing state** (callback on `ctx`, before fix 83c762f): the nested send to `nD` (no client) fails, the
callback is answered with the error acknowledgement, yet the escrow of both nested calls and the counter / commitment
of the first nested send stay. -/
example : (recv { cbOnCctx := false } envId c0 rNested).2 = .ackErr ∧
    (recv { cbOnCctx := false } envId c0 rNested).1.escrow (0, nD) = 10 ∧
    chainNext (recv { cbOnCctx := false } envId c0 rNested).1 nC = 2 := by decide +kernel
/-- callback on `cctx` (since fix 83c762f): nothing of it stays -/
example : (recv { cbOnCctx := true } envId c0 rNested).2 = .ackErr ∧
    (recv { cbOnCctx := true } envId c0 rNested).1.escrow (0, nD) = 0 ∧
    chainNext (recv { cbOnCctx := true } envId c0 rNested).1 nC = 1 := by decide +kernel

/-- **A client under the chain's own name** (`HandleCreateClient` accepted it before fix 3b1567f: `rejectOwnName := false`). A "received" packet with
`src = self` then takes the relay branch and writes `commitments/self/B/5` although nothing was sent: `commitments_exact`
is false without the hypothesis `self ∉ clients`. -/
example :
    let c1 := (createClient { cbOnCctx := true } c0 nA).1
    let r : RecvIn := { p := { src := nA, dst := nB, seq := 5, hasData := true, bytes := [7], esc := none },
                        verifyOk := true, relayerFound := true, cbVmOk := true, cbLogs := [], cbCode := 0 }
    (createClient { cbOnCctx := true } c0 nA).2 = .ok ∧ (recv { cbOnCctx := true } envId c1 r).2 = .ok ∧
    (recv { cbOnCctx := true } envId c1 r).1.commits (nB, 5) = some (envId.sha256 [7]) ∧
    (recv { cbOnCctx := true } envId c1 r).1.sent = [] := by decide +kernel

/-- since fix 3b1567f the own name is rejected and `commitments_exact` needs no hypothesis on the history -/
example : (createClient { cbOnCctx := true, rejectOwnName := true } c0 nA).2 = .err := by decide +kernel

/-- upgrade in the middle of a history: one send to `nB`, upgrade (counters, commitments, clients gone; escrow stays),
client re-created, next send carries sequence 1 again and both counters move to 2 -/
example :
    let c1 := (applyTx envId c0 true [.sent (pk nB 1)]).1
    let c2 := (upgrade c1).1
    let c3 := (createClient { cbOnCctx := true } c2 nB).1
    chainNext c1 nB = 2 ∧ contractNext c1 nB = 2 ∧ chainNext c2 nB = 1 ∧ contractNext c2 nB = 1 ∧
    c2.commits (nB, 1) = none ∧ c2.escrow (0, nB) = 10 ∧
    (applyTx envId c2 true [.sent (pk nB 1)]).2 = .hookFailed ∧          -- no client yet
    (applyTx envId c3 true [.sent (pk nB 2)]).2 = .hookFailed ∧          -- the old sequence is not accepted
    (applyTx envId c3 true [.sent (pk nB 1)]).2 = .ok ∧
    contractNext (applyTx envId c3 true [.sent (pk nB 1)]).1 nB = 2 := by decide +kernel

/-- what the check is designed to catch: a handler that re-installs the packet contract's code WITHOUT deleting the
account keeps the contract's `sequences` storage — the counters then disagree (contract 2, chain 1) -/
example :
    let c1 := (applyTx envId c0 true [.sent (pk nB 1)]).1
    let bad : Chain := { (upgrade c1).1 with cseq := c1.cseq }
    contractNext bad nB = 2 ∧ chainNext bad nB = 1 := by decide +kernel

/-- boundary: a history starting with the counter of `nB` at 2^64 - 2: the send with that sequence commits and moves both
counters to 2^64 - 1; the send carrying 2^64 - 1 fails (the uint64 increment wraps to 0, `setSequence` rejects it) and
changes nothing — the counter never wraps -/
example :
    let cm : Chain := fresh nA [nB, nC] [(nB, 2 ^ 64 - 2)]
    let c1 := (applyTx envId cm true [.sent (pk nB (2 ^ 64 - 2))]).1
    (applyTx envId cm true [.sent (pk nB (2 ^ 64 - 2))]).2 = .ok ∧
    chainNext c1 nB = 2 ^ 64 - 1 ∧ contractNext c1 nB = 2 ^ 64 - 1 ∧
    (applyTx envId c1 true [.sent (pk nB (2 ^ 64 - 1))]).2 = .hookFailed ∧
    chainNext (applyTx envId c1 true [.sent (pk nB (2 ^ 64 - 1))]).1 nB = 2 ^ 64 - 1 ∧
    (applyTx envId c1 true [.sent (pk nB 0)]).2 = .hookFailed ∧ (applyTx envId c1 true [.sent (pk nB 1)]).2 = .hookFailed := by
  decide +kernel

/-- what a hook that filters the shared slice in place does: with a receipt `[PacketSent, staking log]` (the staking
log is `other` for the packet hook) the kept staking log overwrites entry 0 — the packet hook never sees the send: the
transaction commits, the escrow is locked, but there is no commitment and neither counter moves -/
example :
    let inPlace : OtherHook := { view := fun ls => (ls.filter (· == .other)) ++ ls.drop (ls.filter (· == .other)).length, ok := fun _ => true }
    let r := applyTxChain envId c0 [inPlace] true [.sent (pk nB 1), .other]
    r.2 = .ok ∧ r.1.commits (nB, 1) = none ∧ chainNext r.1 nB = 1 ∧ contractNext r.1 nB = 1 ∧ r.1.escrow (0, nB) = 10 ∧
    (applyTx envId c0 true [.sent (pk nB 1), .other]).1.commits (nB, 1) ≠ none := by decide +kernel

/-- near misses of a known name are unknown: with clients `B` (0x42) and `C`, sends to `b` (0x62, the other case), to
the empty prefix-extension `B-` and to `B/` fail and change nothing; with clients under BOTH spellings the two lines are
independent -/
example :
    let nb : Bytes := [98]
    let cBoth := (createClient { cbOnCctx := true } c0 nb).1
    (applyTx envId c0 true [.sent (pk nb 1)]).2 = .hookFailed ∧
    (applyTx envId c0 true [.sent (pk [66, 45] 1)]).2 = .hookFailed ∧
    (applyTx envId c0 true [.sent (pk [66, 47] 1)]).2 = .hookFailed ∧
    (applyTx envId c0 true [.sent (pk [66, 32] 1)]).2 = .hookFailed ∧
    (applyTx envId cBoth true [.sent (pk nb 1)]).2 = .ok ∧
    chainNext (applyTx envId cBoth true [.sent (pk nb 1)]).1 nb = 2 ∧
    chainNext (applyTx envId cBoth true [.sent (pk nb 1)]).1 nB = 1 ∧
    contractNext (applyTx envId cBoth true [.sent (pk nb 1)]).1 nB = 1 := by decide +kernel

end Examples

end TM.Send
