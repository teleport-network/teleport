import TeleportModel.Model.NoPanic
import TeleportModel.Proofs.C20
import TeleportModel.Lemmas.Outcome
/-
C15 — no panic outside transaction recovery: every proposal content accepted by its `ValidateBasic`
and every genesis accepted by `ValidateGenesis` is executed to success or an ordinary error, in every
module state reachable from a validated genesis by validated proposals; rvesting `BeginBlocker` is
`TM.Vesting.no_panic` (Proofs/C20.lean).
-/
namespace TM.NoPanic
open TM

@[simp] theorem ok_bind {α β} (a : α) (f : α → Out β) : (Outcome.ok a >>= f) = f a := rfl
@[simp] theorem err_bind {α β} (e : String) (f : α → Out β) : ((Outcome.err e : Out α) >>= f) = .err e := rfl
@[simp] theorem panic_bind {α β} (e : String) (f : α → Out β) : ((Outcome.panic e : Out α) >>= f) = .panic e := rfl
@[simp] theorem pure_eq {α} (a : α) : (pure a : Out α) = .ok a := rfl
@[simp] theorem isPanic_ok {α} (a : α) : (Outcome.ok a : Out α).isPanic = false := rfl
@[simp] theorem isPanic_err {α} (e : String) : (Outcome.err e : Out α).isPanic = false := rfl
@[simp] theorem isPanic_panic {α} (e : String) : (Outcome.panic e : Out α).isPanic = true := rfl

theorem guard_noPanic {α} {c : Prop} [Decidable c] {e : String} {o : Out α} :
    (if c then .err e else o).isPanic = false ↔ (¬ c → o.isPanic = false) := by
  by_cases h : c <;> simp [h]

/-- `Sat P r`: `r` is not a panic, and when it is a result the result satisfies `P`. "Does not panic" and "keeps the
invariant" are the two projections of a handler's `Sat` lemma. -/
def Sat {α} (P : α → Prop) : Out α → Prop
  | .ok a => P a
  | .err _ => True
  | .panic _ => False

@[simp] theorem sat_ok {α} {P : α → Prop} {a : α} : Sat P (.ok a) ↔ P a := Iff.rfl

theorem Sat.noPanic {α} {P : α → Prop} {r : Out α} (h : Sat P r) : r.isPanic = false := by
  cases r with
  | ok _ => rfl
  | err _ => rfl
  | panic _ => exact h.elim

theorem Sat.of_ok {α} {P : α → Prop} {r : Out α} {a : α} (h : Sat P r) (hr : r = .ok a) : P a := by
  subst hr; exact h

theorem sat_guard {α} {P : α → Prop} {c : Prop} [Decidable c] {e : String} {o : Out α} :
    Sat P (if c then .err e else o) ↔ (¬ c → Sat P o) := by
  by_cases h : c <;> simp [h, Sat]

theorem sat_bind {α β} {Q : α → Prop} {P : β → Prop} {o : Out α} {f : α → Out β} (ho : Sat Q o)
    (hf : ∀ a, Q a → Sat P (f a)) : Sat P (o >>= f) := by
  cases o with
  | ok a => exact hf a ho
  | err _ => trivial
  | panic _ => exact ho.elim

/-- the tail of the keeper functions: a last fallible step, then the new state. -/
theorem sat_then_pure {α} {P : α → Prop} {o : Out Unit} {x : α} (ho : o.isPanic = false) (hx : P x) :
    Sat P (o >>= fun _ => pure x) := by
  cases o with
  | ok _ => exact hx
  | err _ => trivial
  | panic _ => cases ho

/-! ### The validators guard `Initialize` / `UpgradeState` -/

theorem bscValidate_facts (c : Bsc) (h : bscValidate c = .ok ()) :
    c.epoch ≠ 0 ∧ c.chainId ≤ maxI64 ∧ c.height ≠ 0 ∧ 97 ≤ c.extraLen := by
  simp only [bscValidate, bscHeaderValidate, ite_err_eq_ok] at h
  obtain ⟨he, hc, hh, _, hx, _⟩ := h
  exact ⟨he, Nat.not_lt.mp hc, hh, Nat.not_lt.mp hx⟩

theorem bscSeal_guarded (c : Bsc) (sig : SigRes) (h1 : c.chainId ≤ maxI64) (h2 : 97 ≤ c.extraLen) :
    (bscSeal c sig).isPanic = false := by
  simp only [bscSeal, if_neg (Nat.not_lt.mpr h1), if_neg (Nat.not_lt.mpr h2), guard_noPanic]
  intro _
  cases sig <;> simp only [guard_noPanic, isPanic_err, isPanic_ok, implies_true]

/-- bsc: `ClientState.Validate` guards `Initialize` (`% Epoch`, negative chain id in rlp, `Extra[32:len-65]`). -/
theorem bsc_init_guarded (c : Bsc) (cons : CT) (sig : SigRes) (h : bscValidate c = .ok ()) :
    (bscInit c cons sig).isPanic = false := by
  obtain ⟨he, hc, _, hx⟩ := bscValidate_facts c h
  simp only [bscInit, if_neg he, guard_noPanic]
  exact fun _ _ => bscSeal_guarded c sig hc hx

/-- bsc: `ClientState.Validate` guards `UpgradeState`. -/
theorem bsc_upgrade_guarded (c : Bsc) (cons : CT) (sig : SigRes) (p s : Bool) (h : bscValidate c = .ok ()) :
    (bscUpgrade c cons sig p s).isPanic = false := by
  obtain ⟨he, hc, _, hx⟩ := bscValidate_facts c h
  simp only [bscUpgrade, if_neg he, guard_noPanic]
  exact fun _ _ _ _ => bscSeal_guarded c sig hc hx

/-- bsc `ClientState.Validate` ⇒ the header is not at height zero (6c8eeb9). -/
theorem bsc_validate_height (c : Bsc) (h : bscValidate c = .ok ()) : c.height ≠ 0 :=
  (bscValidate_facts c h).2.2.1

theorem eth_validate_facts (c : Eth) (h : ethValidate c = .ok ()) : c.height ≠ 0 ∧ c.bloomLen ≤ 256 := by
  simp only [ethValidate, ethHeaderValidate, ite_err_eq_ok] at h
  exact ⟨h.1, Nat.not_lt.mp h.2.1⟩

/-- eth: `ClientState.Validate` (through the bloom-length check of `Header.ValidateBasic`) guards `Initialize` /
`UpgradeState` (`BytesToBloom`). -/
theorem eth_init_guarded (c : Eth) (cons : CT) (m : Bool) (h : ethValidate c = .ok ()) :
    (ethInit c cons m).isPanic = false := by
  simp only [ethInit, if_neg (Nat.not_lt.mpr (eth_validate_facts c h).2), guard_noPanic, isPanic_ok, implies_true]

/-- eth `Header.ValidateBasic` itself never panics: the bloom length is checked before `ToEthHeader` (oversized bloom at
ANY height is an ordinary error); height 0 is rejected by `ClientState.Validate` (6c8eeb9) before the header is looked at. -/
theorem eth_header_validate_total (c : Eth) : (ethHeaderValidate c).isPanic = false := by
  simp only [ethHeaderValidate, guard_noPanic]
  intro hb _ _
  rw [if_neg hb]
  split
  · simp only [guard_noPanic, isPanic_ok, implies_true]
  · rfl

theorem cs_init_guarded (c : CS) (cons : CT) (e : Env) (h : csValidate c = .ok ()) :
    (csInit c cons e).isPanic = false := by
  cases c with
  | tm t => simp only [csInit, tmInit]; split <;> rfl
  | bsc b => exact bsc_init_guarded b cons e.sig h
  | eth x => exact eth_init_guarded x cons e.marshalErr h
  | tss t => rfl

theorem cs_upgrade_guarded (c : CS) (cons : CT) (e : Env) (h : csValidate c = .ok ()) :
    (csUpgrade c cons e).isPanic = false := by
  cases c with
  | tm t => simp only [csUpgrade, tmInit]; split <;> rfl
  | bsc b => exact bsc_upgrade_guarded b cons e.sig e.pruneErr e.signerErr h
  | eth x => exact eth_init_guarded x cons e.marshalErr h
  | tss t => rfl

theorem clientValidateBasic_ok (p : ClientProp) (h : clientValidateBasic p = .ok ()) :
    ∃ c t, p.cs = .val c ∧ p.cons = .val t ∧ csValidate c = .ok () ∧ consValidate t p.tmc = .ok () := by
  obtain ⟨absOk, chain, cs, cons, tmc⟩ := p
  obtain ⟨_, h⟩ := ite_err_eq_ok.mp h
  cases cs with
  | val c =>
    obtain ⟨_, hv, h⟩ := bind_eq_ok.mp h
    cases cons with
    | val t => exact ⟨c, t, rfl, rfl, hv, h⟩
    | _ => cases h
  | _ => cases h

theorem clientValidateBasic_val (p : ClientProp) (h : clientValidateBasic p = .ok ()) :
    ∃ c, p.cs = .val c ∧ csValidate c = .ok () :=
  let ⟨c, _, hc, _, hv, _⟩ := clientValidateBasic_ok p h
  ⟨c, hc, hv⟩

/-- (fafdbf1) an accepted client proposal carries a consensus state that unpacks and passes its `ValidateBasic`
(so the handlers' `UnpackConsensusState` cannot fail for validated contents). -/
theorem clientValidateBasic_cons (p : ClientProp) (h : clientValidateBasic p = .ok ()) :
    ∃ t, p.cons = .val t ∧ consValidate t p.tmc = .ok () :=
  let ⟨_, t, _, ht, _, hv⟩ := clientValidateBasic_ok p h
  ⟨t, ht, hv⟩

/-! `XSt.get` / `XSt.set` are `lookup` / `insert` on the client list. -/

theorem lookup_mem {α} (l : List (String × α)) (k : String) (v : α) (h : lookup l k = some v) :
    ∃ x ∈ l, x.2 = v := by
  obtain ⟨x, hf, hx⟩ := Option.map_eq_some_iff.mp h
  exact ⟨x, List.mem_of_find?_eq_some hf, hx⟩

theorem forall_mem_insert {α} {P : String × α → Prop} (l : List (String × α)) (h : ∀ x ∈ l, P x) (k : String) (v : α)
    (hv : P (k, v)) : ∀ x ∈ insert l k v, P x :=
  List.forall_mem_cons.mpr ⟨hv, fun x hx => h x (List.mem_filter.mp hx).1⟩

def StoreValid (s : XSt) : Prop := ∀ x ∈ s.clients, csValidate x.2 = .ok ()

theorem get_valid (s : XSt) (hs : StoreValid s) (chain : String) (c : CS) (h : s.get chain = some c) :
    csValidate c = .ok () := by
  obtain ⟨x, hx, rfl⟩ := lookup_mem s.clients chain c h
  exact hs x hx

/-- RegisterRelayerProposal: the validator only lets a parseable (so non-empty) address through. -/
theorem relayer_addr (p : RelayerProp) (h : relayerValidateBasic p = .ok ()) : p.addr = .good := by
  simp only [relayerValidateBasic, ite_err_eq_ok] at h
  exact Decidable.not_not.mp h.2.1

/-- All four xibc proposal types at once: a validated proposal is executed without panic in every state, and a result
is a valid store when the old one was — the client handlers write the proposal's own, validated, client state under
its chain name and nothing else. -/
theorem xHandle_sat (e : Env) (s : XSt) (p : XProp) (h : xValidateBasic p = .ok ()) :
    Sat (fun s' => StoreValid s → StoreValid s') (xHandle e s p) := by
  cases p with
  | relayer p =>
    simp only [xHandle, handleRelayer]
    rw [relayer_addr p h]
    exact id
  | create p =>
    obtain ⟨c, t, hc, ht, hv, _⟩ := clientValidateBasic_ok p h
    refine sat_guard.mpr fun _ => ?_
    cases s.get p.chain with
    | some _ => trivial
    | none =>
      simp only [hc, ht, unpack, ok_bind]
      exact sat_then_pure (cs_init_guarded c t e hv) fun hs => forall_mem_insert _ hs _ c hv
  | upgrade p =>
    obtain ⟨c, t, hc, ht, hv, _⟩ := clientValidateBasic_ok p h
    simp only [xHandle, handleUpgrade, hc, ht, unpack, ok_bind]
    cases s.get p.chain with
    | none => trivial
    | some old =>
      exact sat_guard.mpr fun _ => sat_then_pure (cs_upgrade_guarded c t e hv) fun hs => forall_mem_insert _ hs _ c hv
  | toggle p =>
    obtain ⟨c, t, hc, ht, hv, _⟩ := clientValidateBasic_ok p h
    simp only [xHandle, handleToggle]
    cases s.get p.chain with
    | none => trivial
    | some old =>
      simp only [hc, ht, unpack, ok_bind]
      exact sat_guard.mpr fun _ => sat_then_pure (cs_init_guarded c t e hv) fun hs => forall_mem_insert _ hs _ c hv

theorem xibc_proposal_no_panic (e : Env) (s : XSt) (p : XProp)
    (h : xValidateBasic p = .ok ()) : (xHandle e s p).isPanic = false := (xHandle_sat e s p h).noPanic

/-- CreateClientProposal: accepted by `ValidateBasic` ⇒ executed without panic, in every state. -/
theorem create_no_panic (e : Env) (s : XSt) (p : ClientProp) (h : clientValidateBasic p = .ok ()) :
    (handleCreate e s p).isPanic = false := xibc_proposal_no_panic e s (.create p) h

/-- UpgradeClientProposal: accepted by `ValidateBasic` ⇒ executed without panic, in every state. -/
theorem upgrade_no_panic (e : Env) (s : XSt) (p : ClientProp) (h : clientValidateBasic p = .ok ()) :
    (handleUpgrade e s p).isPanic = false := xibc_proposal_no_panic e s (.upgrade p) h

/-- ToggleClientProposal: accepted by `ValidateBasic` ⇒ executed without panic, in EVERY state: the handler runs
`Initialize` of the proposal's own, validated, client state, not of the stored one (fix e081e86). -/
theorem toggle_no_panic (e : Env) (s : XSt) (p : ClientProp)
    (h : clientValidateBasic p = .ok ()) : (handleToggle e s p).isPanic = false := xibc_proposal_no_panic e s (.toggle p) h

theorem relayer_no_panic (s : XSt) (p : RelayerProp) (h : relayerValidateBasic p = .ok ()) :
    (handleRelayer s p).isPanic = false := xibc_proposal_no_panic {} s (.relayer p) h

theorem xHandle_preserves_valid (e : Env) (s s' : XSt) (hs : StoreValid s) (p : XProp)
    (h : xValidateBasic p = .ok ()) (hr : xHandle e s p = .ok s') : StoreValid s' :=
  (xHandle_sat e s p h).of_ok hr hs

/-! ### xibc genesis

Each loop of `InitGenesis` succeeds on what the matching loop of `GenesisState.Validate` accepted. -/

theorem xinitClients_ok (l : List (Bool × String × AnyV CS)) (acc out : List (String × CS))
    (h : xgenClients l acc = .ok out) (s : XSt) (hs : StoreValid s) :
    ∃ s', xinitClients l s = .ok s' ∧ StoreValid s' := by
  induction l generalizing acc s with
  | nil => exact ⟨s, rfl, hs⟩
  | cons a rest ih =>
    obtain ⟨idOk, chain, av⟩ := a
    obtain ⟨_, h⟩ := ite_err_eq_ok.mp h
    cases av with
    | val c =>
      obtain ⟨_, hv, h⟩ := bind_eq_ok.mp h
      exact ih _ h _ (forall_mem_insert _ hs chain c hv)
    | _ => cases h

theorem xinitCons_ok (l : List XGenCons) (h : xgenConsStates l = .ok ()) : xinitCons l = .ok () := by
  induction l with
  | nil => rfl
  | cons c rest ih =>
    obtain ⟨hz, cons, cv, tm⟩ := c
    obtain ⟨_, h⟩ := ite_err_eq_ok.mp h
    cases cons with
    | val t => exact ih (ite_err_eq_ok.mp (ite_err_eq_ok.mp h).2).2
    | _ => cases h

theorem xinitConsAll_ok (valid : List (String × CS)) (l : List (String × List XGenCons))
    (h : xgenConsensus valid l = .ok ()) : xinitConsAll l = .ok () := by
  induction l with
  | nil => rfl
  | cons a rest ih =>
    obtain ⟨chain, cl⟩ := a
    obtain ⟨_, h1, h2⟩ := bind_eq_ok.mp (ite_err_eq_ok.mp h).2
    simp only [xinitConsAll, xinitCons_ok cl h1, ok_bind, ih h2]

theorem xinitMeta_ok (valid : List (String × CS)) (l : List (String × List (Bool × Bool)))
    (h : xgenMeta valid l = .ok ()) : xinitMeta l = .ok () := by
  induction l with
  | nil => rfl
  | cons a rest ih =>
    obtain ⟨hk, h⟩ := ite_err_eq_ok.mp (ite_err_eq_ok.mp h).2
    simp only [xinitMeta, if_neg hk, ih h]

/-- xibc `InitGenesis` of a genesis accepted by `GenesisState.Validate` succeeds and leaves a valid store. -/
theorem xgenesis_ok (g : XGen) (h : xValidateGenesis g = .ok ()) :
    ∃ s, xInitGenesis g = .ok s ∧ StoreValid s := by
  obtain ⟨valid, h1, h⟩ := bind_eq_ok.mp h
  obtain ⟨_, h2, h⟩ := bind_eq_ok.mp h
  obtain ⟨_, h3, _⟩ := bind_eq_ok.mp h
  obtain ⟨s, hs, hv⟩ := xinitClients_ok g.clients [] valid h1 {} (fun x hx => nomatch hx)
  refine ⟨s, ?_, hv⟩
  simp only [xInitGenesis, xinitMeta_ok valid g.metadata h3, hs, xinitConsAll_ok valid g.consensus h2, ok_bind, pure_eq]

theorem xgenesis_no_panic (g : XGen) (h : xValidateGenesis g = .ok ()) :
    (xInitGenesis g).isPanic = false ∧ ∀ s, xInitGenesis g = .ok s → StoreValid s := by
  obtain ⟨s, hs, hv⟩ := xgenesis_ok g h
  rw [hs]
  exact ⟨rfl, fun _ h' => Outcome.ok.inj h' ▸ hv⟩

/-- `gov.EndBlocker` semantics: a failed handler leaves the state unchanged; a panic halts the chain. -/
def xRun : XSt → List (Env × XProp) → Out XSt
  | s, [] => .ok s
  | s, (e, p) :: rest =>
    match xHandle e s p with
    | .ok s' => xRun s' rest
    | .err _ => xRun s rest
    | .panic m => .panic m

theorem xRun_no_panic (s : XSt) (ops : List (Env × XProp))
    (hv : ∀ o ∈ ops, xValidateBasic o.2 = .ok ()) : (xRun s ops).isPanic = false := by
  induction ops generalizing s with
  | nil => rfl
  | cons o rest ih =>
    obtain ⟨e, p⟩ := o
    obtain ⟨hp, hrest⟩ := List.forall_mem_cons.mp hv
    have hnp := xibc_proposal_no_panic e s p hp
    unfold xRun
    generalize xHandle e s p = r at hnp ⊢
    cases r with
    | ok s' => exact ih s' hrest
    | err m => exact ih s hrest
    | panic m => cases hnp

/-- From any validated genesis, any sequence of validated xibc proposals (any external results)
executes without panic. -/
theorem xibc_chain_never_halts (g : XGen) (hg : xValidateGenesis g = .ok ()) (ops : List (Env × XProp))
    (hv : ∀ o ∈ ops, xValidateBasic o.2 = .ok ()) :
    (xInitGenesis g >>= fun s => xRun s ops).isPanic = false := by
  obtain ⟨s, hs, _⟩ := xgenesis_ok g hg
  rw [hs]
  exact xRun_no_panic s ops hv

/-- bank `Metadata.Validate` ⇒ at least one denom unit (it must contain the display unit). -/
theorem metaValidate_units (m : Meta) (h : metaValidate m = .ok ()) : m.units ≠ [] := by
  intro hu
  simp only [metaValidate, hu, metaLoop, ite_err_eq_ok, reduceCtorEq, and_false] at h

theorem pairId_sat (p : Pair) (h : p.denoms ≠ []) : Sat (fun _ => True) p.id := by
  unfold Pair.id
  cases hd : p.denoms with
  | nil => exact absurd hd h
  | cons d _ => trivial

theorem coinChecks_sat (e : CoinEnv) (s : ASt) (m : Meta) : Sat (fun _ => True) (coinChecks e s m) := by
  simp only [coinChecks, sat_guard, sat_ok, implies_true]

def AValid (s : ASt) : Prop := ∀ x ∈ s.pairs, x.2.denoms ≠ []

theorem lookup_valid (s : ASt) (hs : AValid s) (id : String) (p : Pair) (h : lookup s.pairs id = some p) :
    p.denoms ≠ [] := by
  obtain ⟨x, hx, rfl⟩ := lookup_mem _ _ _ h
  exact hs x hx

theorem setDenoms_pairs (s : ASt) (ds : List String) (id : String) : (s.setDenoms ds id).pairs = s.pairs := rfl
theorem setErc_pairs (s : ASt) (a id : String) : (s.setErc a id).pairs = s.pairs := rfl

/-! Each handler: ok-or-error, and a result keeps `AValid` (the stored pair it writes has a
denomination; `setDenoms` / `setErc` do not touch the pairs). -/

theorem registerCoin_sat (e : CoinEnv) (s : ASt) (p : CoinProp) (hu : p.md.units ≠ []) :
    Sat (fun s' => AValid s → AValid s') (handleRegisterCoin e s p) := by
  refine sat_bind (coinChecks_sat e s p.md) fun _ _ => ?_
  cases hl : p.md.units with
  | nil => exact absurd hl hu
  | cons u us =>
    cases e.deploy with
    | err => trivial
    | ok addr => exact fun hs => forall_mem_insert _ hs _ _ (List.cons_ne_nil _ _)

theorem addCoin_sat (e : CoinEnv) (s : ASt) (p : CoinProp) :
    Sat (fun s' => AValid s → AValid s') (handleAddCoin e s p) := by
  unfold handleAddCoin
  cases p.contract with
  | none => trivial
  | some addr =>
    refine sat_bind (coinChecks_sat e s p.md) fun _ _ => ?_
    cases lookup s.ercMap addr with
    | none => trivial
    | some id =>
      dsimp only
      cases lookup s.pairs id with
      | none => trivial
      | some pair =>
        have hne : ({ pair with denoms := pair.denoms ++ [p.md.base] } : Pair).denoms ≠ [] :=
          List.append_ne_nil_of_right_ne_nil _ (List.cons_ne_nil _ _)
        exact sat_bind (pairId_sat _ hne) fun _ _ => sat_guard.mpr fun _ hs => forall_mem_insert _ hs _ _ hne

theorem registerERC20_sat (c : Ext String) (s : ASt) (a : String) :
    Sat (fun s' => AValid s → AValid s') (handleRegisterERC20 c s a) := by
  refine sat_guard.mpr fun _ => sat_guard.mpr fun _ => ?_
  cases c with
  | err => trivial
  | ok denom => exact fun hs => forall_mem_insert _ hs _ _ (List.cons_ne_nil _ _)

theorem toggleRelay_sat (s : ASt) (hs : AValid s) (t : Token) : Sat AValid (handleToggleRelay s t) := by
  unfold handleToggleRelay
  cases s.tokenId t with
  | none => trivial
  | some id =>
    refine sat_guard.mpr fun _ => ?_
    cases hp : lookup s.pairs id with
    | none => trivial
    | some pair =>
      have hne := lookup_valid s hs id pair hp
      exact sat_bind (pairId_sat { pair with enabled := !pair.enabled } hne) fun _ _ => forall_mem_insert _ hs _ _ hne

theorem updatePair_sat (e : UpdEnv) (s : ASt) (hs : AValid s) (o n : String) :
    Sat AValid (handleUpdatePair e s o n) := by
  unfold handleUpdatePair
  cases lookup s.ercMap o with
  | none => trivial
  | some id =>
    refine sat_guard.mpr fun _ => ?_
    cases hp : lookup s.pairs id with
    | none => trivial
    | some pair =>
      refine sat_guard.mpr fun _ => ?_
      have hne := lookup_valid s hs id pair hp
      obtain ⟨erc, ds, en⟩ := pair
      cases ds with
      | nil => exact absurd rfl hne
      | cons d0 ds =>
        simp only [sat_guard, Pair.id, ok_bind, pure_eq]
        exact fun _ _ _ => forall_mem_insert _ (fun x hx => hs x (List.mem_filter.mp hx).1) _ _ (List.cons_ne_nil _ _)

/-- RegisterCoinProposal: `ValidateBasic` (bank `Metadata.Validate`) guards `DenomUnits[0]`. -/
theorem registerCoin_no_panic (e : CoinEnv) (s : ASt) (p : CoinProp) (h : coinValidateBasic p = .ok ()) :
    (handleRegisterCoin e s p).isPanic = false :=
  let ⟨_, hm, _⟩ := bind_eq_ok.mp h
  (registerCoin_sat e s p (metaValidate_units p.md hm)).noPanic

/-- AddCoinProposal: no panic in any state (the identifier is read after appending the new denom). -/
theorem addCoin_no_panic (e : CoinEnv) (s : ASt) (p : CoinProp) : (handleAddCoin e s p).isPanic = false :=
  (addCoin_sat e s p).noPanic

theorem registerERC20_no_panic (c : Ext String) (s : ASt) (a : String) :
    (handleRegisterERC20 c s a).isPanic = false := (registerERC20_sat c s a).noPanic

/-- ToggleTokenRelayProposal, in every state whose stored pairs have a denomination. -/
theorem toggleRelay_no_panic (s : ASt) (hs : AValid s) (t : Token) : (handleToggleRelay s t).isPanic = false :=
  (toggleRelay_sat s hs t).noPanic

/-- UpdateTokenPairERC20Proposal: `pair.Denoms[0]` is guarded by the store invariant. -/
theorem updatePair_no_panic (e : UpdEnv) (s : ASt) (hs : AValid s) (o n : String) :
    (handleUpdatePair e s o n).isPanic = false := (updatePair_sat e s hs o n).noPanic

theorem registerCoin_valid (e : CoinEnv) (s s' : ASt) (hs : AValid s) (p : CoinProp)
    (h : handleRegisterCoin e s p = .ok s') : AValid s' := by
  by_cases hu : p.md.units = []
  · obtain ⟨_, _, h⟩ := bind_eq_ok.mp h
    rw [hu] at h
    cases h
  · exact (registerCoin_sat e s p hu).of_ok h hs

theorem addCoin_valid (e : CoinEnv) (s s' : ASt) (hs : AValid s) (p : CoinProp)
    (h : handleAddCoin e s p = .ok s') : AValid s' := (addCoin_sat e s p).of_ok h hs

theorem registerERC20_valid (c : Ext String) (s s' : ASt) (hs : AValid s) (a : String)
    (h : handleRegisterERC20 c s a = .ok s') : AValid s' := (registerERC20_sat c s a).of_ok h hs

theorem toggleRelay_valid (s s' : ASt) (hs : AValid s) (t : Token)
    (h : handleToggleRelay s t = .ok s') : AValid s' := (toggleRelay_sat s hs t).of_ok h

theorem updatePair_valid (e : UpdEnv) (s s' : ASt) (hs : AValid s) (o n : String)
    (h : handleUpdatePair e s o n = .ok s') : AValid s' := (updatePair_sat e s hs o n).of_ok h

/-! ### the supply-limit proposal: validator and handler parse the same strings -/

/-- Per string: whatever the validator's parser accepts, the handler's parser accepts (today both are
`SetString(·, 10)`; relaxing the validator's side — e.g. to a base-0 parser — makes this lemma false). -/
theorem limit_parse_agree_string (s : String) (h : (limitVbParse s).isSome) : (limitHParse s).isSome := by
  simpa [limitVbParse, limitHParse] using h

/-- One field of `ValidateBasic`: an accepted content got past the parse (`none` is an error). -/
theorem parsed_of_ok {o : Option Int} {e : String} {k : Int → Out Unit}
    (h : (match o with | none => Outcome.err e | some x => k x) = .ok ()) : o.isSome ∧ ∃ x, k x = .ok () := by
  cases o with
  | none => cases h
  | some x => exact ⟨rfl, x, h⟩

/-- **supply_limit_parse_agree**: for ALL contents (all four raw strings), if `ValidateBasic` accepts then each of the
handler's four re-parses succeeds — no nil `*big.Int` can reach `abi.Pack`. -/
theorem supply_limit_parse_agree (p : LimitProp) (h : limitValidateBasic p = .ok ()) :
    (limitHParse p.period).isSome ∧ (limitHParse p.limit).isSome ∧ (limitHParse p.maxAmt).isSome ∧ (limitHParse p.minAmt).isSome := by
  obtain ⟨_, h⟩ := ite_err_eq_ok.mp h
  obtain ⟨hp, tp, h⟩ := parsed_of_ok h
  obtain ⟨hn, mn, h⟩ := parsed_of_ok (ite_err_eq_ok.mp h).2
  obtain ⟨hx, mx, h⟩ := parsed_of_ok (ite_err_eq_ok.mp h).2
  obtain ⟨hl, _⟩ := parsed_of_ok (ite_err_eq_ok.mp h).2
  exact ⟨limit_parse_agree_string _ hp, limit_parse_agree_string _ hl, limit_parse_agree_string _ hx,
    limit_parse_agree_string _ hn⟩

/-- EnableTimeBasedSupplyLimitProposal: `ValidateBasic` guards the unchecked `SetString` results. -/
theorem enableLimit_no_panic (evmOk : Bool) (p : LimitProp) (h : limitValidateBasic p = .ok ()) :
    (handleEnableLimit evmOk p).isPanic = false := by
  obtain ⟨h1, h2, h3, h4⟩ := supply_limit_parse_agree p h
  simp only [handleEnableLimit, ← Option.not_isSome, h1, h2, h3, h4, Bool.not_true, Bool.false_eq_true, or_self]
  cases evmOk <;> rfl

/-- the transcribed `SetString(·, 10)` on the spellings that separate it from a base-0 parser. -/
example : setString10 "60" = some 60 ∧ setString10 "+60" = some 60 ∧ setString10 "-7" = some (-7) ∧ setString10 "007" = some 7
    ∧ setString10 "0x3c" = none ∧ setString10 "0b111100" = none ∧ setString10 "0o74" = none ∧ setString10 "1_000" = none
    ∧ setString10 " 60" = none ∧ setString10 "60 " = none ∧ setString10 "1e3" = none ∧ setString10 "" = none
    ∧ setString10 "+" = none ∧ setString10 "+-1" = none ∧ setString10 "６０" = none := by decide +kernel

example : limitValidateBasic ⟨true, "60", "1000", "100", "10", true⟩ = .ok () := by decide +kernel
example : (handleEnableLimit true ⟨true, "0x3c", "1000", "100", "10", true⟩).isPanic = true := by decide +kernel

theorem evmOnly_no_panic (b : Bool) : (handleEvmOnly b).isPanic = false := by
  cases b <;> rfl

theorem validDenom_empty : Vesting.validDenom "" = false := by decide +kernel

/-- The `InitGenesis` loop succeeds on what the `Validate` loop accepted: a pair with no denomination, or with the empty
string as one (`SetDenomMap` would `store.Set` an empty key), does not pass `TokenPair.Validate`. -/
theorem aInitLoop_ok (l : List GenPair) (se sd : List String) (h : aValidateLoop l se sd = .ok ()) (s : ASt)
    (hs : AValid s) : ∃ s', aInitLoop l s = .ok s' ∧ AValid s' := by
  induction l generalizing se sd s with
  | nil => exact ⟨s, rfl, hs⟩
  | cons b rest ih =>
    obtain ⟨erc, ok, ds⟩ := b
    simp only [aValidateLoop, ite_err_eq_ok] at h
    obtain ⟨hne, hden, _, _, h⟩ := h
    split at h
    · cases h
    · cases ds with
      | nil => exact absurd rfl hne
      | cons d ds =>
        have hany : ((d :: ds).map (·.1)).any (· == "") = false :=
          List.any_eq_false.mpr (List.forall_mem_map.mpr fun y hy he =>
            hden (List.any_eq_true.mpr ⟨y, hy, by rw [eq_of_beq he, validDenom_empty]; rfl⟩))
        simp only [aInitLoop, hany]
        exact ih _ _ h _ (forall_mem_insert _ hs _ _ (List.cons_ne_nil _ _))

/-- aggregate `InitGenesis` of a genesis accepted by `GenesisState.Validate` does not panic and
establishes the store invariant. -/
theorem agenesis_no_panic (en : Bool) (g : List GenPair) (h : aValidateGenesis g = .ok ()) :
    ∃ s, aInitGenesis en g = .ok s ∧ AValid s :=
  aInitLoop_ok g [] [] h _ (fun _ hx => nomatch hx)

/-- rvesting `InitGenesis` of a genesis accepted by `ValidateGenesis`: no panic, PROVIDED the `From`
account (if any) can pay `InitReward` — a fact of the bank genesis that the module's stateless
validation cannot see (documented limitation, see docs/C15.md). -/
theorem rvgenesis_no_panic (g : RvGen) (canPay : Bool) (h : rvValidateGenesis g = .ok ())
    (hp : g.src = .good → canPay = true) : rvInitGenesis g canPay = .ok () := by
  obtain ⟨hv, h⟩ := ite_err_eq_ok.mp h
  unfold rvInitGenesis
  rw [if_neg hv]
  cases hs : g.src with
  | none => rfl
  | bad => rw [hs] at h; cases h
  | good => rw [hp hs]; rfl

/-- The limitation is real: a validated genesis whose `From` account is not funded panics. -/
theorem rvgenesis_unfunded_panics :
    ∃ g, rvValidateGenesis g = .ok () ∧ (rvInitGenesis g false).isPanic = true :=
  ⟨{ enable := false, reward := [{ denom := "atele", amount := some 1 }], src := .good, initRewardValid := true },
   by decide +kernel, by decide +kernel⟩

/-- rvesting `BeginBlocker`: `TM.Vesting.no_panic`. -/
theorem beginBlocker_no_panic (s : Vesting.State) (hv : Vesting.Valid s.reward) (hp : ∀ d, 0 ≤ s.pool d) :
    (Vesting.beginBlock s).isPanic = false := Vesting.no_panic s hv hp

/-! ### The fixes are necessary: witnesses on the unfixed validators -/

/-- Without the `Epoch ≠ 0` guard (`Validate` = `Header.ValidateBasic` as in the unfixed tree) an accepted
client state panics in `Initialize`. -/
theorem unfixed_bsc_epoch_witness :
    ∃ c sig, bscHeaderValidate c = .ok () ∧ (bscInit c .bsc sig).isPanic = true :=
  ⟨{ epoch := 0, chainId := 56, height := 200, extraLen := 117, mixZero := true, uncleOk := true,
     bloomLen := 0, nonceLen := 0, diffZero := false }, .fail, by decide +kernel, by decide +kernel⟩

/-- Without the `ChainId ≤ MaxInt64` guard an accepted client state panics in `encodeSigHeader`. -/
theorem unfixed_bsc_chainid_witness :
    ∃ c sig, bscHeaderValidate c = .ok () ∧ c.epoch ≠ 0 ∧ (bscInit c .bsc sig).isPanic = true :=
  ⟨{ epoch := 200, chainId := 9223372036854775808, height := 200, extraLen := 117, mixZero := true, uncleOk := true,
     bloomLen := 0, nonceLen := 0, diffZero := false }, .fail, by decide +kernel, by decide +kernel, by decide +kernel⟩

def exBsc : Bsc := { epoch := 200, chainId := 56, height := 400, extraLen := 97 + 40, mixZero := true,
                     uncleOk := true, bloomLen := 256, nonceLen := 8, diffZero := false }
def exProp : ClientProp := ⟨true, "bsc-1", .val (.bsc exBsc), .val .bsc, {}⟩

example : clientValidateBasic exProp = .ok () := by decide +kernel
example : (handleCreate { sig := .good } {} exProp).isOk = true := by decide +kernel

example : ∃ s : ASt, AValid s ∧ s.pairs ≠ [] :=
  ⟨{ pairs := [("a|b", { erc20 := "a", denoms := ["b"], enabled := true })] },
   by intro x hx; simp at hx; subst hx; simp, by simp⟩

theorem setEVMCode_total (e : Option AccKind) : (setEVMCode e).isPanic = false := rfl

/-- the v0.2 upgrade handler only calls `SetEVMCode`. -/
theorem lcUpgrade_total (k : AccKind) (a : AddrClass) : (lcUpgrade k a).isPanic = false := by
  unfold lcUpgrade
  split <;> rfl

/-- InitChain is the module-account look-up followed by the same `SetEVMCode` step. -/
theorem lcInitChain_eq (k : AccKind) (a : AddrClass) : lcInitChain k a =
    if a = .moduleInit ∧ k ≠ .module then .panic "cosmos-sdk auth: account is not a module account" else lcUpgrade k a := rfl

/-- **start-up is total for every valid genesis account table at the addresses the app writes**: whatever kind of account
a validated genesis puts at a system-contract address, a lazily used module address or anywhere else, neither InitChain nor the
v0.2 upgrade panics; at a module address used at start-up the same holds for the (only sensible) module account. -/
theorem startup_total_every_account_kind (k : AccKind) (a : AddrClass) (_hv : lcValidate k a = .ok ())
    (hm : a = .moduleInit → k = .module) : (lcInitChain k a).isPanic = false ∧ (lcUpgrade k a).isPanic = false := by
  refine ⟨?_, lcUpgrade_total k a⟩
  rw [lcInitChain_eq, if_neg fun h => h.2 (hm h.1)]
  exact lcUpgrade_total k a

/-- the excluded case is cosmos-sdk's own panic, not teleport code. -/
theorem lifecycle_only_sdk_panic (k : AccKind) (a : AddrClass) (h : (lcInitChain k a).isPanic = true) :
    a = .moduleInit ∧ k ≠ .module := by
  by_cases hg : a = .moduleInit ∧ k ≠ .module
  · exact hg
  · rw [lcInitChain_eq, if_neg hg, lcUpgrade_total] at h
    cases h

/-- re-using the stored account under the unchecked assertion is NOT total: a validated genesis with a vesting account at a
system-contract address panics. -/
theorem reuse_variant_panics : ∃ k, lcValidate k .sysContract = .ok () ∧ (setEVMCodeReuse (some k)).isPanic = true :=
  ⟨.delayedVesting, by decide +kernel, by decide +kernel⟩

/-! ### the block phase does not depend on the block gas meter -/

/-- **block_phase_total_any_gas**: the modelled Begin/EndBlock steps (proposal execution of every xibc and aggregate kind) give
the same outcome under every block-gas state — absent, infinite, finite at any fill level — and, for validated contents, never
panic.  (The tie to the code is the dynamic runs at the fill levels empty / half / limit−1000 / limit−1 / full.) -/
theorem block_phase_total_any_gas (g g' : BlockGas) (e : Env) (s : XSt) (p : XProp) (ce : CoinEnv) (a : ASt) (cp : CoinProp)
    (ok : Bool) (lp : LimitProp) :
    xHandleInBlock g e s p = xHandleInBlock g' e s p ∧ registerCoinInBlock g ce a cp = registerCoinInBlock g' ce a cp ∧
    evmOnlyInBlock g ok = evmOnlyInBlock g' ok ∧ enableLimitInBlock g ok lp = enableLimitInBlock g' ok lp ∧
    (xValidateBasic p = .ok () → (xHandleInBlock g e s p).isPanic = false) ∧
    (coinValidateBasic cp = .ok () → (registerCoinInBlock g ce a cp).isPanic = false) ∧
    (evmOnlyInBlock g ok).isPanic = false ∧ (limitValidateBasic lp = .ok () → (enableLimitInBlock g ok lp).isPanic = false) :=
  ⟨rfl, rfl, rfl, rfl, xibc_proposal_no_panic e s p, registerCoin_no_panic ce a cp, evmOnly_no_panic ok,
   enableLimit_no_panic ok lp⟩

/-- charging the call's gas to a finite, almost full block meter is NOT total. -/
theorem charging_block_gas_panics :
    (evmOnlyChargingBlock { finite := true, limit := 10000000, consumed := 9999999 } true 50000).isPanic = true := by decide +kernel

/-- … while an absent / infinite meter hides it (why keeper-level tests never see it). -/
theorem charging_infinite_meter_fine (c n : Nat) :
    (evmOnlyChargingBlock { finite := false, limit := 0, consumed := c } true n).isPanic = false := by
  simp [evmOnlyChargingBlock, consumeBlockGas]

/-- **rvesting_genesis_total**: `InitGenesis` is total (returns) on every rvesting genesis document accepted by `ValidateGenesis`
whose `from` account, if any, can pay `init_reward`.  The validation the proof needs is the whole-list `Coins.Validate`
(sorted, no duplicates, positive): it is exactly what `SendCoins` re-checks. -/
theorem rvesting_genesis_total (d : RvDoc) (canPay : Bool) (h : rvValidateDoc d = .ok ())
    (hp : d.src = .good → canPay = true) : rvInitDoc d canPay = .ok () := by
  obtain ⟨hv, h⟩ := ite_err_eq_ok.mp h
  unfold rvInitDoc
  rw [if_neg hv]
  cases hs : d.src with
  | none => rfl
  | bad => rw [hs] at h; cases h
  | good =>
    cases hr : GovCycle.rawValid d.initReward with
    | false => rw [hs, hr] at h; cases h
    | true => rw [hp hs]; rfl

/-- the documented exception: a validated document whose `from` cannot pay panics (bank-genesis fact). -/
theorem rvesting_genesis_unfunded_panics :
    ∃ d, rvValidateDoc d = .ok () ∧ (rvInitDoc d false).isPanic = true :=
  ⟨{ enable := false, reward := [{ denom := "atele", amount := some 1 }], src := .good, initReward := [("atele", 5)] }, by decide +kernel, by decide +kernel⟩

/-- weakening the validation to coin-by-coin and canonicalising with `sdk.NewCoins` is NOT total: [5atele, 7uxyz, 3atele]. -/
theorem per_coin_validation_breaks_totality :
    ∃ d, rvValidateDocPerCoin d = .ok () ∧ (rvInitDocNewCoins d true).isPanic = true :=
  ⟨{ enable := false, reward := [{ denom := "atele", amount := some 1 }], src := .good,
     initReward := [("atele", 5), ("uxyz", 7), ("atele", 3)] }, by decide +kernel, by decide +kernel⟩

end TM.NoPanic
