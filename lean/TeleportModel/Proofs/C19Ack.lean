import TeleportModel.Model.Abi
import TeleportModel.Model.Json
import TeleportModel.Generated.AbiTuples
import TeleportModel.Proofs.C19Abi
import TeleportModel.Proofs.C19Json
/-
C19 — the acknowledgement obligations, in their own module so that the known defect F11 (tuple component
`feeOption` vs struct tag `json:"fee_option"`) breaks exactly `ack_tagsMatch` / `ack_decode_encode` and nothing else (before fix 432ba14 of /repo the component was
named `feeOption` and `ack_tagsMatch` did not hold).
-/
namespace TM.C19
open TM TM.Abi TM.Json TM.Generated

theorem ackLayout_wf : AbiTuples.tupleAckData.WF := by decide +kernel
theorem ack_tagsMatch : TagsMatch AbiTuples.tupleAckData AbiTuples.acknowledgementSchema := by decide +kernel
theorem ack_covers : Covers AbiTuples.tupleAckData AbiTuples.acknowledgementSchema := by decide +kernel

theorem ack_decode_encode (sv : List Val) (b : Bytes)
    (hty : sv.map Val.ty = AbiTuples.acknowledgementSchema.map (·.ty)) (hu : ∀ v ∈ sv, strOk v = true)
    (hp : packStruct AbiTuples.tupleAckData AbiTuples.acknowledgementSchema sv = some b) (hsz : b.length < 2 ^ 256) :
    decodeStruct AbiTuples.tupleAckData AbiTuples.acknowledgementSchema b = some sv :=
  decode_encode _ _ sv b ack_tagsMatch ack_covers hty hu hp hsz

end TM.C19
