import TeleportModel.Proofs.C13
import TeleportModel.Lemmas.Outcome
/-
C13 — the aggregate (token pair) genesis round trip.

`AggKeys env s` is the registry invariant of C12 restricted to what the genesis code needs: the aggregate store is sorted and
  * every `1 ‖ id ↦ pair` entry is stored under the pair's own id (`GetID()` = hash of the ERC20 address STRING AS STORED ‖ "|" ‖
    Denoms[0]; a genesis file that spells the address differently produces another id — the model takes the stored string), its
    ERC20 index entry and the index entry of EVERY denomination it lists exist and point to that id;
  * every `2 ‖ address ↦ id` and `3 ‖ denom ↦ id` index entry points to a stored pair that has this address / lists this
    denomination.
Because the second clause quantifies over every index entry and the first over every listed denomination, an InitGenesis that
re-indexes only `Denoms[0]` cannot reproduce a store with a multi-denomination pair (`headOnly_loses_denoms`).
-/
namespace TM.Genesis
open TM TM.GKv

theorem aggErc20Key_ne_pairKey (e id : Bytes) : aggErc20Key e ≠ aggPairKey id := fun h => absurd (List.cons.inj h).1 (by decide)
theorem aggDenomKey_ne_pairKey (d id : Bytes) : aggDenomKey d ≠ aggPairKey id := fun h => absurd (List.cons.inj h).1 (by decide)

theorem aggKeys_iff (env : Env) (s : Store) :
    AggKeys env s ↔ (Sorted s ∧ ∀ kv ∈ s, aggKeyOk env s kv.1 kv.2 = true) := by
  unfold AggKeys aggKeysB
  simp only [Bool.and_eq_true, sortedB_iff, List.all_eq_true]

theorem aggKeyOk_pair {env : Env} {s : Store} {id b : Bytes} :
    aggKeyOk env s (aggPairKey id) b = true ↔
      (env.pairId b = id ∧ get s (aggErc20Key (env.pairErc20 b)) = some id ∧ ∀ d ∈ env.pairDenoms b, get s (aggDenomKey d) = some id) := by
  simp only [aggKeyOk, aggPairKey, Bool.and_eq_true, beq_iff_eq, List.all_eq_true, and_assoc]

theorem aggKeyOk_erc {env : Env} {s : Store} {e v : Bytes} :
    aggKeyOk env s (aggErc20Key e) v = true ↔ ∃ b, get s (aggPairKey v) = some b ∧ env.pairErc20 b = e ∧ env.pairId b = v := by
  simp only [aggKeyOk, aggErc20Key]
  cases get s (aggPairKey v) with
  | none => simp only [Bool.false_eq_true, reduceCtorEq, false_and, exists_false]
  | some b => simp only [Bool.and_eq_true, beq_iff_eq, Option.some.injEq, exists_eq_left']

theorem aggKeyOk_den {env : Env} {s : Store} {d v : Bytes} :
    aggKeyOk env s (aggDenomKey d) v = true ↔ ∃ b, get s (aggPairKey v) = some b ∧ d ∈ env.pairDenoms b ∧ env.pairId b = v := by
  simp only [aggKeyOk, aggDenomKey]
  cases get s (aggPairKey v) with
  | none => simp only [Bool.false_eq_true, reduceCtorEq, false_and, exists_false]
  | some b => simp only [Bool.and_eq_true, beq_iff_eq, List.contains_iff_mem, Option.some.injEq, exists_eq_left']

theorem aggKey_shape {env : Env} {s : Store} {k v : Bytes} (h : aggKeyOk env s k v = true) :
    (∃ id, k = aggPairKey id) ∨ (∃ e, k = aggErc20Key e) ∨ (∃ d, k = aggDenomKey d) := by
  unfold aggKeyOk at h
  split at h
  · next id => exact Or.inl ⟨id, rfl⟩
  · next e => exact Or.inr (Or.inl ⟨e, rfl⟩)
  · next d => exact Or.inr (Or.inr ⟨d, rfl⟩)
  · exact absurd h Bool.false_ne_true

theorem mem_exportAgg {s : Store} {b : Bytes} : b ∈ exportAgg s ↔ ∃ id, (aggPairKey id, b) ∈ s := by
  unfold exportAgg
  simp only [List.mem_map, mem_iter]
  constructor
  · rintro ⟨⟨k, v⟩, ⟨hm, hp⟩, rfl⟩
    obtain ⟨r, rfl⟩ : ∃ r, k = aggPairKey r := (isPrefixOf_iff _ _).mp hp
    exact ⟨r, hm⟩
  · rintro ⟨id, hm⟩
    exact ⟨(aggPairKey id, b), ⟨hm, (isPrefixOf_iff _ _).mpr ⟨id, rfl⟩⟩, rfl⟩

theorem mem_aggPairWrites {env : Env} {b : Bytes} {kv : Bytes × Bytes} :
    kv ∈ aggPairWrites env b ↔
      (kv = (aggPairKey (env.pairId b), b) ∨ (∃ d ∈ env.pairDenoms b, (aggDenomKey d, env.pairId b) = kv)
        ∨ kv = (aggErc20Key (env.pairErc20 b), env.pairId b)) := by
  simp only [aggPairWrites, List.cons_append, List.mem_cons, List.mem_append, List.mem_map, List.not_mem_nil, or_false]

theorem exportAgg_index {env : Env} {s : Store} (h : AggKeys env s) {b : Bytes} (hb : b ∈ exportAgg s) :
    (aggPairKey (env.pairId b), b) ∈ s ∧ get s (aggErc20Key (env.pairErc20 b)) = some (env.pairId b) ∧
      ∀ d ∈ env.pairDenoms b, get s (aggDenomKey d) = some (env.pairId b) := by
  obtain ⟨id, hm⟩ := mem_exportAgg.mp hb
  have hok : aggKeyOk env s (aggPairKey id) b = true := ((aggKeys_iff env s).mp h).2 _ hm
  obtain ⟨rfl, h2, h3⟩ := aggKeyOk_pair.mp hok
  exact ⟨hm, h2, h3⟩

theorem agg_writes_sub {env : Env} {s : Store} (h : AggKeys env s) :
    ∀ kv, kv ∈ (exportAgg s).flatMap (aggPairWrites env) → kv ∈ s := by
  have hS := ((aggKeys_iff env s).mp h).1
  intro kv hkv
  obtain ⟨b, hb, hw⟩ := List.mem_flatMap.mp hkv
  obtain ⟨h1, h2, h3⟩ := exportAgg_index h hb
  rcases mem_aggPairWrites.mp hw with rfl | ⟨d, hd, rfl⟩ | rfl
  · exact h1
  · exact (mem_iff_get hS _ _).mpr (h3 d hd)
  · exact (mem_iff_get hS _ _).mpr h2

/-- every entry of the store is written back: a pair entry by its own pair, an index entry by the pair it points to -/
theorem agg_sub_writes {env : Env} {s : Store} (h : AggKeys env s) :
    ∀ kv, kv ∈ s → kv ∈ (exportAgg s).flatMap (aggPairWrites env) := by
  obtain ⟨hS, hK⟩ := (aggKeys_iff env s).mp h
  rintro ⟨k, v⟩ hkv
  have hok : aggKeyOk env s k v = true := hK _ hkv
  rcases aggKey_shape hok with ⟨id, rfl⟩ | ⟨e, rfl⟩ | ⟨d, rfl⟩
  · obtain ⟨rfl, -, -⟩ := aggKeyOk_pair.mp hok
    exact List.mem_flatMap.mpr ⟨v, mem_exportAgg.mpr ⟨_, hkv⟩, mem_aggPairWrites.mpr (Or.inl rfl)⟩
  · obtain ⟨b, hg, rfl, rfl⟩ := aggKeyOk_erc.mp hok
    exact List.mem_flatMap.mpr ⟨b, mem_exportAgg.mpr ⟨_, (mem_iff_get hS _ _).mpr hg⟩,
      mem_aggPairWrites.mpr (Or.inr (Or.inr rfl))⟩
  · obtain ⟨b, hg, hd, rfl⟩ := aggKeyOk_den.mp hok
    exact List.mem_flatMap.mpr ⟨b, mem_exportAgg.mpr ⟨_, (mem_iff_get hS _ _).mpr hg⟩,
      mem_aggPairWrites.mpr (Or.inr (Or.inl ⟨d, hd, rfl⟩))⟩

/-- the token-pair store round-trips, for pairs with ANY number of denominations -/
theorem roundtrip_agg {env : Env} {s : Store} (h : AggKeys env s) : initAgg env (exportAgg s) = s :=
  setAll_nil_eq ((aggKeys_iff env s).mp h).1 _ (agg_writes_sub h) (agg_sub_writes h)

/-- **x/aggregate genesis round trip** (token pairs + parameters) -/
theorem roundtrip_aggregate {env : Env} {st : AggState} (h : AggKeys env st.a) (hp : Sorted st.p) :
    initAggregate env (exportAggregate st) = st := by
  cases st with
  | mk a p =>
    simp only [initAggregate, exportAggregate]
    rw [roundtrip_agg h, roundtrip_params hp]

theorem export_idempotent_aggregate {env : Env} {st : AggState} (h : AggKeys env st.a) (hp : Sorted st.p) :
    exportAggregate (initAggregate env (exportAggregate st)) = exportAggregate st := by
  rw [roundtrip_aggregate h hp]

theorem aggWellFormed_iff {env : Env} {s : Store} :
    AggWellFormed env s ↔ ∀ b ∈ exportAgg s, env.validPair b = true ∧ env.pairDenoms b ≠ [] := by
  unfold AggWellFormed aggWellFormedB
  simp only [List.all_eq_true, Bool.and_eq_true, Bool.not_eq_true', List.isEmpty_eq_false_iff]

theorem validateAggAux_of {env : Env} (l : List Bytes) (seenE seenD : List Bytes)
    (hv : ∀ b ∈ l, env.validPair b = true ∧ env.pairErc20 b ∉ seenE ∧ (env.pairDenoms b).headD [] ∉ seenD)
    (hp : l.Pairwise (fun b1 b2 => env.pairErc20 b1 ≠ env.pairErc20 b2 ∧
      (env.pairDenoms b1).headD [] ≠ (env.pairDenoms b2).headD [])) :
    validateAggAux env l seenE seenD = true := by
  induction l generalizing seenE seenD with
  | nil => rfl
  | cons b r ih =>
    obtain ⟨hb, hr⟩ := List.pairwise_cons.mp hp
    obtain ⟨h1, h2, h3⟩ := hv b List.mem_cons_self
    simp only [validateAggAux, Bool.and_eq_true, Bool.not_eq_true', List.contains_eq_mem, decide_eq_false_iff_not]
    refine ⟨⟨⟨h2, h3⟩, h1⟩, ih _ _ (fun b' hb' => ?_) hr⟩
    obtain ⟨g1, g2, g3⟩ := hv b' (List.mem_cons_of_mem _ hb')
    exact ⟨g1, fun hm => (List.mem_cons.mp hm).elim (fun e => (hb b' hb').1 e.symm) g2,
      fun hm => (List.mem_cons.mp hm).elim (fun e => (hb b' hb').2 e.symm) g3⟩

/-- distinct positions of the sorted store carry distinct keys `1 ‖ id`, and every pair is stored under its own id -/
theorem exportAgg_pairwise_id {env : Env} {s : Store} (h : AggKeys env s) :
    (exportAgg s).Pairwise (fun b1 b2 => env.pairId b1 ≠ env.pairId b2) := by
  obtain ⟨hS, hK⟩ := (aggKeys_iff env s).mp h
  have key : ∀ kv ∈ iter s [1], kv.1 = aggPairKey (env.pairId kv.2) := by
    rintro ⟨k, v⟩ hkv
    obtain ⟨hm, hp⟩ := (mem_iter _ _ _).mp hkv
    obtain ⟨r, rfl⟩ : ∃ r, k = aggPairKey r := (isPrefixOf_iff _ _).mp hp
    have ok : aggKeyOk env s (aggPairKey r) v = true := hK _ hm
    rw [(aggKeyOk_pair.mp ok).1]
  rw [exportAgg, List.pairwise_map]
  refine List.Pairwise.imp_of_mem (fun {x y} hx hy hlt e => ?_) (sorted_iter hS [1])
  rw [key x hx, key y hy, e, blt_irrefl] at hlt
  exact Bool.false_ne_true hlt

theorem headD_mem {l : List Bytes} (h : l ≠ []) (d : Bytes) : l.headD d ∈ l := by
  cases l with
  | nil => exact absurd rfl h
  | cons a r => exact List.mem_cons_self

/-- the exported pairs pass `GenesisState.Validate`: no contract and no first denomination occurs twice (both index entries
point to ONE id, and different exported pairs have different ids), every pair validates -/
theorem export_validates_aggregate {env : Env} {st : AggState} (h : AggKeys env st.a) (hw : AggWellFormed env st.a) :
    validateAggregate env (exportAggregate st) = true := by
  have hwf := aggWellFormed_iff.mp hw
  refine validateAggAux_of (exportAgg st.a) [] [] (fun b hb => ⟨(hwf b hb).1, List.not_mem_nil, List.not_mem_nil⟩) ?_
  refine (exportAgg_pairwise_id h).imp_of_mem ?_
  intro b1 b2 hb1 hb2 hne
  obtain ⟨-, e1, d1⟩ := exportAgg_index h hb1
  obtain ⟨-, e2, d2⟩ := exportAgg_index h hb2
  constructor
  · intro e
    rw [e, e2] at e1
    exact hne (Option.some.inj e1).symm
  · intro e
    have g := d1 _ (headD_mem (hwf b1 hb1).2 [])
    rw [e, d2 _ (headD_mem (hwf b2 hb2).2 [])] at g
    exact hne (Option.some.inj g).symm

/-! ### why an import that indexes only `Denoms[0]` cannot be right -/

/-- a toy environment: a pair blob `[id, erc20, d1, d2, …]` -/
def toyEnv : Env :=
  { validClient := fun _ => true, validCons := fun _ => true,
    pairId := fun b => b.take 1, pairErc20 := fun b => (b.drop 1).take 1,
    pairDenoms := fun b => (b.drop 2).map (fun x => [x]), validPair := fun _ => true }

def toyAgg : Store := aggSetPair toyEnv [] [7, 9, 100, 101]

theorem toyAgg_keys : AggKeys toyEnv toyAgg := by unfold AggKeys; decide +kernel

example : AggKeys toyEnv toyAgg := toyAgg_keys
example : initAgg toyEnv (exportAgg toyAgg) = toyAgg := roundtrip_agg toyAgg_keys

/-- an InitGenesis that indexes only `Denoms[0]` (`initAggHeadOnly`, trial change `seeded/C13-3`) loses the index entry of the
second denomination -/
theorem headOnly_loses_denoms : AggKeys toyEnv toyAgg ∧ initAggHeadOnly toyEnv (exportAgg toyAgg) ≠ toyAgg ∧
    get (initAggHeadOnly toyEnv (exportAgg toyAgg)) (aggDenomKey [101]) = none := by
  have lost : get (initAggHeadOnly toyEnv (exportAgg toyAgg)) (aggDenomKey [101]) = none := by decide +kernel
  have kept : get toyAgg (aggDenomKey [101]) ≠ none := by decide +kernel
  exact ⟨toyAgg_keys, fun h => kept (h ▸ lost), lost⟩

end TM.Genesis
