import TeleportModel.Model.EvmProof
import TeleportModel.Model.EvmProofLife
import TeleportModel.Lemmas.Outcome
/-
C08 — EVM storage proofs bind contract, slot, value, root and height.

Theorems about `TM.EvmProof.verify` (the transcription of VerifyPacketCommitment / VerifyPacketAcknowledgement of the
ETH and BSC clients). `Env.keccak` and `Env.mpt` (go-ethereum `trie.VerifyProof`) are arbitrary. What is assumed of them
is a hypothesis of the theorem that needs it, never an axiom: `MptSound` (`binds` and what follows from it), `MptNeedsPath`
(the `truncated_*` lemmas), `MptMonotone` (`extra_nodes_harmless`), injectivity of `keccak` (`slot_kind_separated`,
`slotOf_eq_imp_path_eq`). `accept_iff` and the height lemmas assume nothing.
-/
namespace TM.EvmProof
open TM

/-- The height rule in plain (unbounded) arithmetic: the proof height is not above the head in the `Height` order
    and the proof block number plus the confirmation delay does not exceed the head block number. -/
def HeightRule (cs : ClientState) (h : Height) : Prop :=
  (cs.head.rn = h.rn ∨ h.rn < cs.head.rn) ∧ h.rh.toNat + cs.delayBlock.toNat ≤ cs.head.rh.toNat

/-- the three height guards of `verify`, as executed on `uint64`; `accept_iff` is what ties this copy to `verify` -/
def heightGuards (cs : ClientState) (h : Height) : Bool :=
  !(cs.head.lt h) && !(decide (cs.head.rh < h.rh)) && !(decide (cs.head.rh - h.rh < cs.delayBlock))

/-- the two `uint64` comparisons on block numbers, read in unbounded arithmetic: once `b ≤ a` the subtraction cannot wrap -/
theorem confirmations_iff (a b d : UInt64) : (¬ a < b ∧ ¬ a - b < d) ↔ b.toNat + d.toNat ≤ a.toNat := by
  rw [UInt64.not_lt, UInt64.not_lt, UInt64.le_iff_toNat_le, UInt64.le_iff_toNat_le]
  have key (hba : b.toNat ≤ a.toNat) : d.toNat ≤ (a - b).toNat ↔ b.toNat + d.toNat ≤ a.toNat := by
    rw [UInt64.toNat_sub_of_le _ _ (UInt64.le_iff_toNat_le.mpr hba), Nat.le_sub_iff_add_le hba, Nat.add_comm]
  rw [and_congr_right key]
  exact and_iff_right_of_imp (Nat.le_trans (Nat.le_add_right ..))

theorem not_lt_iff_of_rh_le {a b : Height} (hrh : ¬ a.rh < b.rh) : a.lt b = false ↔ (a.rn = b.rn ∨ b.rn < a.rn) := by
  unfold Height.lt
  by_cases e : a.rn = b.rn
  · simp only [e, ne_eq, not_true_eq_false, ↓reduceIte, decide_eq_false_iff_not, true_or, iff_true]
    exact hrh
  · simp only [ne_eq, e, not_false_eq_true, ↓reduceIte, decide_eq_false_iff_not, UInt64.not_lt, false_or]
    exact ⟨fun h => (UInt64.lt_or_eq_of_le h).resolve_right (Ne.symm e), UInt64.le_of_lt⟩

theorem heightGuards_eq_true (cs : ClientState) (h : Height) : heightGuards cs h = true ↔
    (cs.head.lt h = false ∧ ¬ cs.head.rh < h.rh) ∧ ¬ cs.head.rh - h.rh < cs.delayBlock := by
  unfold heightGuards
  rw [Bool.and_eq_true, Bool.and_eq_true, Bool.not_eq_true', Bool.not_eq_true', Bool.not_eq_true',
    decide_eq_false_iff_not, decide_eq_false_iff_not]

theorem heightGuards_iff (cs : ClientState) (h : Height) : heightGuards cs h = true ↔ HeightRule cs h := by
  rw [heightGuards_eq_true, HeightRule, ← confirmations_iff, and_assoc]
  exact and_congr_left fun hc => not_lt_iff_of_rh_le hc.1

theorem rlpList_append (p q : Bytes) : ∃ pre, pre ≠ [] ∧ rlpList (p ++ q) = pre ++ q := by
  unfold rlpList
  split
  · exact ⟨_ :: p, List.cons_ne_nil _ _, rfl⟩
  · exact ⟨_ :: (_ ++ p), List.cons_ne_nil _ _, by rw [List.cons_append, List.append_assoc]⟩

theorem rlpAccount_eq_append (a b s c : Bytes) : ∃ pre, pre ≠ [] ∧ rlpAccount a b s c = pre ++ (rlpString s ++ rlpString c) := by
  unfold rlpAccount
  rw [List.append_assoc]
  exact rlpList_append _ _

theorem rlpAccount_ne_nil (a b c d : Bytes) : rlpAccount a b c d ≠ [] := by
  obtain ⟨pre, hne, e⟩ := rlpAccount_eq_append a b c d
  rw [e]
  exact fun h => hne (List.append_eq_nil_iff.mp h).1

theorem rlpDecodeBytes_nil : rlpDecodeBytes [] = none := rfl

theorem checkProofResult_iff (result value : Bytes) :
    checkProofResult result value = true ↔ ∃ t, rlpDecodeBytes result = some t ∧ leftPad32 t = value := by
  unfold checkProofResult
  cases rlpDecodeBytes result with
  | none => simp
  | some t => simp

def MerkleOk (env : Env) (p : Proof) (consRoot contract commitment proofKey : Bytes) : Prop :=
  fromHex p.address = contract ∧
  env.mpt (bytesToHash consRoot) (env.keccak (fromHex p.address)) (p.accountProof.map fromHex)
    = .value (rlpAccount (hexToHash p.nonce) (hexToHash p.balance) (hexToHash p.storageHash) (hexToHash p.codeHash)) ∧
  ∃ sp raw t,
    p.storageProof = [some sp] ∧
    hexToHash sp.key = proofKey ∧
    env.mpt (hexToHash p.storageHash) (env.keccak (hexToHash sp.key)) (sp.proof.map fromHex) = .value raw ∧
    rlpDecodeBytes raw = some t ∧ leftPad32 t = commitment

theorem verifyMerkleProof_ok_iff (env : Env) (p : Proof) (consRoot contract commitment proofKey : Bytes) :
    verifyMerkleProof env p consRoot contract commitment proofKey = .ok () ↔
      MerkleOk env p consRoot contract commitment proofKey := by
  unfold verifyMerkleProof
  constructor
  · intro h
    dsimp only at h
    obtain ⟨ha, h⟩ := ite_err_eq_ok.mp h
    generalize hm : env.mpt (bytesToHash consRoot) _ _ = acct at h
    cases acct with
    | invalid => cases h
    | absent =>
      -- a proven-absent key yields the nil slice, which is no account tuple …
      dsimp only [MptRes.bytes] at h
      -- not `ite_err_eq_ok`: for `_ ≠ []` instance search finds `List.instDecidableEqNil`, and identifying that with
      -- the `DecidableEq` instance in `h` is slow
      rw [if_pos (rlpAccount_ne_nil _ _ _ _)] at h
      cases h
    | value acctVal =>
    obtain ⟨hr, h⟩ := ite_err_eq_ok.mp h
    generalize hsp : p.storageProof = sps at h
    cases sps with
    | nil => cases h
    | cons osp tl =>
    cases tl with
    | cons _ _ => cases h
    | nil =>
    cases osp with
    | none => cases h
    | some sp =>
    obtain ⟨hk, h⟩ := ite_err_eq_ok.mp h
    generalize hm2 : env.mpt _ _ _ = stor at h
    cases stor with
    | invalid => cases h
    | absent => cases h  -- … and no RLP string: `checkProofResult [] _` is `false`
    | value val =>
    dsimp only [MptRes.bytes] at h
    by_cases hc : checkProofResult val commitment = true
    case neg => rw [if_neg hc] at h; cases h
    obtain ⟨t, ht, hp⟩ := (checkProofResult_iff _ _).mp hc
    cases Decidable.of_not_not hr
    exact ⟨Decidable.of_not_not ha, hm, sp, val, t, hsp, Decidable.of_not_not hk, hm2, ht, hp⟩
  · rintro ⟨rfl, hacct, sp, raw, t, hsp, rfl, hstor, hdec, hpad⟩
    have hc : checkProofResult raw commitment = true := (checkProofResult_iff _ _).mpr ⟨t, hdec, hpad⟩
    simp only [hacct, hsp, hstor, hc, MptRes.bytes, ne_eq, not_true_eq_false, ↓reduceIte]

theorem ConsStore.get_cons_self (h : Height) (e : ConsEntry) (rest : ConsStore) :
    ConsStore.get ((h, e) :: rest) h = some e := by
  rw [ConsStore.get, if_pos rfl]

/-- **accept_iff.** `VerifyPacketCommitment` / `VerifyPacketAcknowledgement` return nil exactly when:
    the proof bytes decode to a record, a consensus state is stored for the proof height, the height rule holds in
    plain arithmetic (no `uint64` wrap-around), the record's address is the configured contract, the account proof
    proves the record's account tuple for `keccak(address)` under the stored root, there is exactly one (non-null)
    storage proof, its key is the slot derived from the path, and the storage proof proves under the record's
    storage hash, for `keccak(slot)`, an RLP string whose left-padded-to-32 form is the commitment. -/
theorem accept_iff (env : Env) (cs : ClientState) (store : ConsStore) (h : Height) (proof : ProofArg)
    (k : PathKind) (src dst : Bytes) (seq : UInt64) (value : Bytes) :
    verify env cs store h proof k src dst seq value = .ok () ↔
      ∃ p cons, proof = .parsed p ∧ store.get h = some (.state cons) ∧ HeightRule cs h ∧
        MerkleOk env p cons.root cs.contract value (slotOf env k src dst seq) := by
  rw [← heightGuards_iff, heightGuards_eq_true]
  unfold verify
  constructor
  · intro hv
    obtain ⟨h1, hv⟩ := ite_err_eq_ok.mp hv
    obtain ⟨h2, hv⟩ := ite_err_eq_ok.mp hv
    cases proof with
    | nil | badJson => cases hv
    | parsed p =>
    generalize store.get h = e at hv ⊢
    cases e with
    | none => cases hv
    | some e =>
    cases e with
    | corrupt => cases hv
    | state cons =>
    obtain ⟨h3, hm⟩ := ite_err_eq_ok.mp hv
    exact ⟨p, cons, rfl, rfl, ⟨⟨Bool.eq_false_iff.mpr h1, h2⟩, h3⟩, (verifyMerkleProof_ok_iff ..).mp hm⟩
  · rintro ⟨p, cons, rfl, hs, ⟨⟨h1, h2⟩, h3⟩, hm⟩
    simp only [hs, h1, h2, h3, Bool.false_eq_true, ↓reduceIte]
    exact (verifyMerkleProof_ok_iff ..).mpr hm

/-- Soundness of `trie.VerifyProof`, the one assumption about the external primitive: there is a function `sem`
    from (root, key) to the value stored under that key in *the* trie with that root, and whenever a proof is
    accepted with value `v`, `v` is that value. (For go-ethereum this follows from collision resistance of
    Keccak-256; it is a hypothesis here, never an axiom.) -/
def MptSound (env : Env) (sem : Bytes → Bytes → Option Bytes) : Prop :=
  ∀ root key nodes v, env.mpt root key nodes = .value v → sem root key = some v

/-- "In the state with root `root`, account `addr` exists and its storage maps `slot` to the word `value`":
    the account trie holds an account tuple for `keccak(addr)` whose storage root `storageH` is a trie that holds,
    for `keccak(slot)`, an RLP string equal to `value` after left-padding to 32 bytes. -/
def StateHolds (env : Env) (sem : Bytes → Bytes → Option Bytes) (root addr slot value : Bytes) : Prop :=
  ∃ nonceH balH storageH codeH, storageH.length = 32 ∧ codeH.length = 32 ∧
    sem root (env.keccak addr) = some (rlpAccount nonceH balH storageH codeH) ∧
    ∃ raw t, sem storageH (env.keccak slot) = some raw ∧ rlpDecodeBytes raw = some t ∧ leftPad32 t = value

theorem bytesToHash_length (b : Bytes) : (bytesToHash b).length = 32 := by
  unfold bytesToHash
  split
  · rename_i h; rw [List.length_drop]; exact Nat.sub_sub_self (Nat.le_of_lt h)
  · rename_i h; rw [List.length_append, List.length_replicate]; exact Nat.sub_add_cancel (Nat.not_lt.mp h)

theorem hexToHash_length (s : Bytes) : (hexToHash s).length = 32 := bytesToHash_length _

/-- **binds.** An accepted proof means: a consensus state is stored for exactly that height, the height rule holds,
    and in the state whose root is stored there the *configured* contract holds `value` at the slot derived from
    (kind, src, dst, seq). -/
theorem binds {env : Env} {sem : Bytes → Bytes → Option Bytes} (hs : MptSound env sem)
    {cs : ClientState} {store : ConsStore} {h : Height} {proof : ProofArg}
    {k : PathKind} {src dst : Bytes} {seq : UInt64} {value : Bytes}
    (hacc : verify env cs store h proof k src dst seq value = .ok ()) :
    ∃ cons, store.get h = some (.state cons) ∧ HeightRule cs h ∧
      StateHolds env sem (bytesToHash cons.root) cs.contract (slotOf env k src dst seq) value := by
  obtain ⟨p, cons, _, hst, hh, haddr, hacct, sp, raw, t, _, hkey, hstor, hdec, hpad⟩ := (accept_iff ..).mp hacc
  exact ⟨cons, hst, hh, _, _, _, _, hexToHash_length _, hexToHash_length _, haddr ▸ hs _ _ _ _ hacct,
    raw, t, hkey ▸ hs _ _ _ _ hstor, hdec, hpad⟩

/-- contrapositive: whatever proof bytes are presented, if the state stored for the height does not hold the value at
    that slot of the configured contract (other contract, other slot, other value, other root, other height), the
    call is rejected. -/
theorem rejected_unless_state_holds {env : Env} {sem : Bytes → Bytes → Option Bytes} (hs : MptSound env sem)
    (cs : ClientState) (store : ConsStore) (h : Height) (proof : ProofArg)
    (k : PathKind) (src dst : Bytes) (seq : UInt64) (value : Bytes)
    (hno : ∀ cons, store.get h = some (.state cons) →
      ¬ StateHolds env sem (bytesToHash cons.root) cs.contract (slotOf env k src dst seq) value) :
    verify env cs store h proof k src dst seq value ≠ .ok () := by
  intro hacc
  obtain ⟨cons, hst, _, hh⟩ := binds hs hacc
  exact hno cons hst hh

theorem rlpString_len32 {s : Bytes} (h : s.length = 32) : rlpString s = 0xa0 :: s := by
  unfold rlpString
  split
  · cases h
  · rw [h]; rfl

theorem rlpAccount_inj_storage {a b s c a' b' s' c' : Bytes}
    (hs : s.length = 32) (hc : c.length = 32) (hs' : s'.length = 32) (hc' : c'.length = 32)
    (h : rlpAccount a b s c = rlpAccount a' b' s' c') : s = s' := by
  obtain ⟨pre, _, e⟩ := rlpAccount_eq_append a b s c
  obtain ⟨pre', _, e'⟩ := rlpAccount_eq_append a' b' s' c'
  rw [e, e', rlpString_len32 hs, rlpString_len32 hc, rlpString_len32 hs', rlpString_len32 hc'] at h
  -- both tails are 66 bytes long, and both storage strings 33
  have ht := List.append_inj_right' h (by simp only [List.length_append, List.length_cons, hs, hc, hs', hc'])
  exact List.tail_eq_of_cons_eq (List.append_inj_left ht (by rw [List.length_cons, List.length_cons, hs, hs']))

theorem stateHolds_unique {env : Env} {sem : Bytes → Bytes → Option Bytes} {root addr slot v v' : Bytes}
    (h1 : StateHolds env sem root addr slot v) (h2 : StateHolds env sem root addr slot v') : v = v' := by
  obtain ⟨a, b, s, c, hs, hc, hacct, raw, t, hraw, hdec, hpad⟩ := h1
  obtain ⟨a', b', s', c', hs', hc', hacct', raw', t', hraw', hdec', hpad'⟩ := h2
  cases rlpAccount_inj_storage hs hc hs' hc' (Option.some.inj (hacct.symm.trans hacct'))
  cases Option.some.inj (hraw.symm.trans hraw')
  cases Option.some.inj (hdec.symm.trans hdec')
  exact hpad.symm.trans hpad'

/-- **other value ⇒ rejected.** Once some proof has been accepted for `value`, no proof whatsoever is accepted for a
    different value at the same client state, store, height and path. -/
theorem other_value_rejected {env : Env} {sem : Bytes → Bytes → Option Bytes} (hs : MptSound env sem)
    {cs : ClientState} {store : ConsStore} {h : Height} {proof proof' : ProofArg}
    {k : PathKind} {src dst : Bytes} {seq : UInt64} {value value' : Bytes}
    (hacc : verify env cs store h proof k src dst seq value = .ok ()) (hne : value' ≠ value) :
    verify env cs store h proof' k src dst seq value' ≠ .ok () := by
  intro hacc'
  obtain ⟨r, hst, _, hh⟩ := binds hs hacc
  obtain ⟨r', hst', _, hh'⟩ := binds hs hacc'
  cases hst.symm.trans hst'
  exact hne (stateHolds_unique hh' hh)

/-- a storage proof that does not prove a value for the slot key (invalid proof, or a proof of absence) is rejected -/
theorem storage_not_proven_rejected (env : Env) (cs : ClientState) (store : ConsStore) (h : Height) (p : Proof) (sp : StorageResult)
    (k : PathKind) (src dst : Bytes) (seq : UInt64) (value : Bytes)
    (hsp : p.storageProof = [some sp])
    (hno : ∀ v, env.mpt (hexToHash p.storageHash) (env.keccak (hexToHash sp.key)) (sp.proof.map fromHex) ≠ .value v) :
    verify env cs store h (.parsed p) k src dst seq value ≠ .ok () := by
  intro hacc
  obtain ⟨_, _, hp, _, _, _, _, sp', raw, _, hsp', _, hstor, _⟩ := (accept_iff ..).mp hacc
  cases hp
  cases hsp.symm.trans hsp'
  exact hno raw hstor

/-- **absent_key_rejected.** A storage proof that shows the slot is *absent* (`trie.VerifyProof` returns nil, nil) is
    rejected for every commitment, the all-zero word included. -/
theorem absent_key_rejected (env : Env) (cs : ClientState) (store : ConsStore) (h : Height) (p : Proof) (sp : StorageResult)
    (k : PathKind) (src dst : Bytes) (seq : UInt64) (value : Bytes)
    (hsp : p.storageProof = [some sp])
    (habs : env.mpt (hexToHash p.storageHash) (env.keccak (hexToHash sp.key)) (sp.proof.map fromHex) = .absent) :
    verify env cs store h (.parsed p) k src dst seq value ≠ .ok () :=
  storage_not_proven_rejected env cs store h p sp k src dst seq value hsp fun _ hv => nomatch habs.symm.trans hv

/-- the same for the account: an absence proof (or a failing proof) for `keccak(address)` is rejected -/
theorem absent_account_rejected (env : Env) (cs : ClientState) (store : ConsStore) (h : Height) (p : Proof) (consRoot : ConsState)
    (k : PathKind) (src dst : Bytes) (seq : UInt64) (value : Bytes)
    (hst : store.get h = some (.state consRoot))
    (habs : ∀ v, env.mpt (bytesToHash consRoot.root) (env.keccak (fromHex p.address)) (p.accountProof.map fromHex) ≠ .value v) :
    verify env cs store h (.parsed p) k src dst seq value ≠ .ok () := by
  intro hacc
  obtain ⟨_, _, hp, hst', _, _, hacct, _⟩ := (accept_iff ..).mp hacc
  cases hp
  cases hst.symm.trans hst'
  exact habs _ hacct

/-- **storage_step_uses_only_storage_nodes.** The node list of `account_proof` is used by the account step only:
    replacing it by any other list for which the account step gives the same answer (more nodes, storage-trie nodes
    mixed in, another order, …) leaves the result unchanged. In particular the storage step never sees account-proof
    nodes: the model passes `sp.proof` alone to `Env.mpt` (the code re-allocates the node list before step 3). -/
theorem storage_step_uses_only_storage_nodes (env : Env) (cs : ClientState) (store : ConsStore) (h : Height) (p : Proof)
    (ap' : List Bytes) (k : PathKind) (src dst : Bytes) (seq : UInt64) (value : Bytes)
    (hacct : ∀ root, env.mpt root (env.keccak (fromHex p.address)) (ap'.map fromHex)
                   = env.mpt root (env.keccak (fromHex p.address)) (p.accountProof.map fromHex)) :
    verify env cs store h (.parsed { p with accountProof := ap' }) k src dst seq value
      = verify env cs store h (.parsed p) k src dst seq value := by
  have hm : verifyMerkleProof env { p with accountProof := ap' } = verifyMerkleProof env p := by
    funext root contract commitment key
    unfold verifyMerkleProof
    dsimp only
    rw [hacct]
  unfold verify
  simp only [hm]

/-- What `trie.VerifyProof` needs (assumption about the external primitive, a hypothesis like `MptSound`): for every
    root and key there is the list `path root key` of the trie nodes on the way from the root to the key, and a proof is
    accepted with a value only if every one of them is in the node set handed to THAT call (each step looks the next
    node up by its hash; a missing node is "proof node missing"). -/
def MptNeedsPath (env : Env) (path : Bytes → Bytes → List Bytes) : Prop :=
  ∀ root key nodes v, env.mpt root key nodes = .value v → ∀ n, n ∈ path root key → n ∈ nodes

/-- **truncated_storage_proof_rejected.** If a node on the storage-trie path of the slot is missing from
    `storage_proof[0].proof`, the call is rejected — whatever `account_proof` contains (the missing node may well be
    there), for every value, height and client state. -/
theorem truncated_storage_proof_rejected {env : Env} {path : Bytes → Bytes → List Bytes} (hn : MptNeedsPath env path)
    (cs : ClientState) (store : ConsStore) (h : Height) (p : Proof) (sp : StorageResult)
    (k : PathKind) (src dst : Bytes) (seq : UInt64) (value : Bytes)
    (hsp : p.storageProof = [some sp]) (n : Bytes)
    (hpath : n ∈ path (hexToHash p.storageHash) (env.keccak (hexToHash sp.key)))
    (hmiss : n ∉ sp.proof.map fromHex) :
    verify env cs store h (.parsed p) k src dst seq value ≠ .ok () :=
  storage_not_proven_rejected env cs store h p sp k src dst seq value hsp fun v hv => hmiss (hn _ _ _ v hv n hpath)

/-- the same for the account proof: a missing account-trie node is not made up for by the storage proof's nodes -/
theorem truncated_account_proof_rejected {env : Env} {path : Bytes → Bytes → List Bytes} (hn : MptNeedsPath env path)
    (cs : ClientState) (store : ConsStore) (h : Height) (p : Proof) (cons : ConsState)
    (k : PathKind) (src dst : Bytes) (seq : UInt64) (value : Bytes)
    (hst : store.get h = some (.state cons)) (n : Bytes)
    (hpath : n ∈ path (bytesToHash cons.root) (env.keccak (fromHex p.address)))
    (hmiss : n ∉ p.accountProof.map fromHex) :
    verify env cs store h (.parsed p) k src dst seq value ≠ .ok () :=
  absent_account_rejected env cs store h p cons k src dst seq value hst fun v hv => hmiss (hn _ _ _ v hv n hpath)

/-- `trie.VerifyProof` works on a node SET: more nodes never hurt (assumption about the primitive) -/
def MptMonotone (env : Env) : Prop :=
  ∀ root key ns ns' v, (∀ n, n ∈ ns → n ∈ ns') → env.mpt root key ns = .value v → env.mpt root key ns' = .value v

/-- **extra_nodes_harmless.** Under `MptMonotone`, adding nodes (unrelated ones, duplicates, nodes of the other
    component, any order) to `account_proof` and to the storage proof keeps an accepted proof accepted. -/
theorem extra_nodes_harmless {env : Env} (hm : MptMonotone env)
    (cs : ClientState) (store : ConsStore) (h : Height) (p : Proof) (sp : StorageResult) (ap' sp' : List Bytes)
    (k : PathKind) (src dst : Bytes) (seq : UInt64) (value : Bytes)
    (hsp : p.storageProof = [some sp])
    (hap : ∀ s, s ∈ p.accountProof → s ∈ ap') (hspn : ∀ s, s ∈ sp.proof → s ∈ sp')
    (hacc : verify env cs store h (.parsed p) k src dst seq value = .ok ()) :
    verify env cs store h (.parsed { p with accountProof := ap', storageProof := [some { sp with proof := sp' }] })
      k src dst seq value = .ok () := by
  obtain ⟨_, cons, hp, hst, hh, haddr, hacct, sp0, raw, t, hsp0, hkey, hstor, hdec, hpad⟩ := (accept_iff ..).mp hacc
  cases hp
  cases hsp.symm.trans hsp0
  exact (accept_iff ..).mpr ⟨_, cons, rfl, hst, hh, haddr,
    hm _ _ _ _ _ (fun _ hn => List.map_subset fromHex (fun s => hap s) hn) hacct,
    { sp with proof := sp' }, raw, t, rfl, hkey,
    hm _ _ _ _ _ (fun _ hn => List.map_subset fromHex (fun s => hspn s) hn) hstor, hdec, hpad⟩

/-- **delay_gate.** Acceptance implies the height rule in unbounded arithmetic … -/
theorem delay_gate {env : Env} {cs : ClientState} {store : ConsStore} {h : Height} {proof : ProofArg}
    {k : PathKind} {src dst : Bytes} {seq : UInt64} {value : Bytes}
    (hacc : verify env cs store h proof k src dst seq value = .ok ()) : HeightRule cs h := by
  obtain ⟨_, _, _, _, hh, _⟩ := (accept_iff ..).mp hacc
  exact hh

/-- … so no `uint64` wrap-around, for any revision numbers, lets a future block (`head < h`) or a block with fewer than
    `delayBlock` confirmations through. -/
theorem too_recent_or_future_rejected (env : Env) (cs : ClientState) (store : ConsStore) (h : Height) (proof : ProofArg)
    (k : PathKind) (src dst : Bytes) (seq : UInt64) (value : Bytes)
    (hbad : cs.head.rh.toNat < h.rh.toNat + cs.delayBlock.toNat) :
    verify env cs store h proof k src dst seq value ≠ .ok () :=
  fun hacc => Nat.not_le.mpr hbad (delay_gate hacc).2

theorem later_revision_rejected (env : Env) (cs : ClientState) (store : ConsStore) (h : Height) (proof : ProofArg)
    (k : PathKind) (src dst : Bytes) (seq : UInt64) (value : Bytes)
    (hbad : cs.head.rn < h.rn) :
    verify env cs store h proof k src dst seq value ≠ .ok () := by
  intro hacc
  rcases (delay_gate hacc).1 with e | l
  · exact UInt64.lt_irrefl _ (e ▸ hbad)
  · exact UInt64.lt_irrefl _ (UInt64.lt_trans hbad l)

/-- **inner_height_irrelevant.** The `Height` (and `Timestamp`) field *inside* the stored consensus state plays no
    role: only the key it is stored under (the proof height) and its root do. In particular the confirmation rule of
    `accept_iff` / `delay_gate` is about the proof height for ANY inner field value (omitted = 0-0, above the head, …). -/
theorem inner_height_irrelevant (env : Env) (cs : ClientState) (rest : ConsStore) (h : Height) (c : ConsState)
    (ts : UInt64) (ih : Height) (proof : ProofArg) (k : PathKind) (src dst : Bytes) (seq : UInt64) (value : Bytes) :
    verify env cs ((h, .state { c with timestamp := ts, height := ih }) :: rest) h proof k src dst seq value
      = verify env cs ((h, .state c) :: rest) h proof k src dst seq value := by
  unfold verify
  rw [ConsStore.get_cons_self, ConsStore.get_cons_self]

/-- The two guards of the code *before* the fix `C08-delay-underflow-cross-revision` (`Height.LT`, then the `uint64`
    subtraction) do not imply the height rule: with the head in a later revision the subtraction wraps. This is the
    witness found by the harness on the unfixed tree (head 1-371, proof height 0-384, one confirmation block). -/
theorem preFix_guards_unsound :
    ∃ (cs : ClientState) (h : Height),
      (!(cs.head.lt h) && !(decide (cs.head.rh - h.rh < cs.delayBlock))) = true ∧ ¬ HeightRule cs h :=
  ⟨{ kind := .eth, head := ⟨1, 371⟩, contract := [], blockDelay := 1, nValidators := 0 }, ⟨0, 384⟩, by decide,
    fun hr => absurd hr.2 (by decide)⟩

theorem trimZeros_leftPad32 (t : Bytes) : trimZeros (leftPad32 t) = trimZeros t :=
  List.dropWhile_append_of_pos fun a ha => by rw [List.eq_of_mem_replicate ha]; rfl

theorem replicate_append_trimZeros (l : Bytes) : ∃ k, List.replicate k 0 ++ trimZeros l = l := by
  refine ⟨(l.takeWhile (· == 0)).length, ?_⟩
  rw [← List.eq_replicate_iff.mpr ⟨rfl, fun b hb => eq_of_beq (List.all_eq_true.mp List.all_takeWhile b hb)⟩]
  exact List.takeWhile_append_dropWhile

theorem trimZeros_length_le (l : Bytes) : (trimZeros l).length ≤ l.length := (List.dropWhile_suffix _).length_le

theorem leftPad32_length (t : Bytes) : (leftPad32 t).length = max 32 t.length := by
  rw [leftPad32, List.length_append, List.length_replicate, Nat.sub_add_eq_max]

theorem leftPad32_trimZeros {v : Bytes} (hv : v.length = 32) : leftPad32 (trimZeros v) = v := by
  obtain ⟨k, e⟩ := replicate_append_trimZeros v
  have hl := congrArg List.length e
  rw [List.length_append, List.length_replicate, hv] at hl
  rw [leftPad32, Nat.sub_eq_of_eq_add hl.symm]
  exact e

/-- the storage value check sees exactly the word, not its byte form: for a 32-byte commitment `v` the proven RLP
    string `t` is accepted iff it has at most 32 bytes and the same minimal form as `v`. -/
theorem leftPad32_eq_iff {t v : Bytes} (hv : v.length = 32) :
    leftPad32 t = v ↔ t.length ≤ 32 ∧ trimZeros t = trimZeros v := by
  constructor
  · intro h
    refine ⟨?_, by rw [← h, trimZeros_leftPad32]⟩
    rw [← hv, ← h, leftPad32_length]
    exact Nat.le_max_right ..
  · -- both sides are 32-byte words with the same minimal form
    rintro ⟨hl, ht⟩
    rw [← leftPad32_trimZeros ((leftPad32_length t).trans (Nat.max_eq_left hl)), trimZeros_leftPad32, ht, leftPad32_trimZeros hv]

theorem rlpDecodeBytes_short (b : UInt8) (rest : Bytes) (hb : b.toNat = 0x80 + rest.length) (hlen : rest.length < 56)
    (hcanon : ¬ (rest.length = 1 ∧ rest.headD 0 < 0x80)) : rlpDecodeBytes (b :: rest) = some rest := by
  have h1 : ¬ b < 0x80 := by rw [UInt8.lt_iff_toNat_lt, hb]; exact Nat.not_lt.mpr (Nat.le_add_right ..)
  have h2 : b < 0xB8 := by rw [UInt8.lt_iff_toNat_lt, hb]; exact Nat.add_lt_add_left hlen 0x80
  have hsz : b.toNat - 0x80 = rest.length := by rw [hb]; exact Nat.add_sub_cancel_left ..
  unfold rlpDecodeBytes
  simp only [h1, h2, ↓reduceIte, hsz, List.take_length, Nat.lt_irrefl, hcanon]

theorem rlpDecodeBytes_rlpString {t : Bytes} (ht : t.length < 56) : rlpDecodeBytes (rlpString t) = some t := by
  unfold rlpString
  split
  · rename_i x
    by_cases hx : x < 0x80
    · rw [if_pos hx]; unfold rlpDecodeBytes; dsimp only; rw [if_pos hx]; rfl
    · rw [if_neg hx]; exact rlpDecodeBytes_short 0x81 [x] rfl ht fun h => hx h.2
  · rename_i hns
    rw [if_pos ht]
    refine rlpDecodeBytes_short _ t (UInt8.toNat_ofNat_of_lt' (Nat.lt_trans (Nat.add_lt_add_left ht 0x80) (by decide))) ht ?_
    rintro ⟨h1, _⟩
    obtain ⟨x, rfl⟩ := List.length_eq_one_iff.mp h1
    exact hns x rfl

/-- **leading_zero_roundtrip.** For every 32-byte commitment `v` — whatever its number of leading zero
    bytes, the all-zero word included — the value an EVM storage trie holds for the word `v`, namely the RLP string of
    its minimal big-endian form, passes `checkProofResult`. -/
theorem leading_zero_roundtrip {v : Bytes} (hv : v.length = 32) :
    checkProofResult (rlpString (trimZeros v)) v = true := by
  rw [checkProofResult_iff]
  have hl : (trimZeros v).length < 56 := Nat.lt_of_le_of_lt (hv ▸ trimZeros_length_le v) (by decide)
  exact ⟨trimZeros v, rlpDecodeBytes_rlpString hl, leftPad32_trimZeros hv⟩

/-- **leading_zero_values.** A 32-byte commitment, whatever its number of leading zero bytes, is accepted by the value check iff the
    proven trie value is the RLP string of a byte string of at most 32 bytes with the same trimmed form (the canonical
    one being the trimmed form itself, see `leading_zero_roundtrip`); nothing else passes. -/
theorem leading_zero_values {v : Bytes} (hv : v.length = 32) (result : Bytes) :
    checkProofResult result v = true ↔
      ∃ t, rlpDecodeBytes result = some t ∧ t.length ≤ 32 ∧ trimZeros t = trimZeros v := by
  rw [checkProofResult_iff]
  exact exists_congr fun t => and_congr_right fun _ => leftPad32_eq_iff hv

/-- a commitment shorter than 32 bytes never passes (the value check pads to at least 32 bytes): 31-byte or trimmed
    commitments are rejected whatever the trie holds. -/
theorem short_commitment_rejected {v : Bytes} (hv : v.length < 32) (result : Bytes) :
    checkProofResult result v = false := by
  rw [Bool.eq_false_iff, ne_eq, checkProofResult_iff]
  rintro ⟨t, _, rfl⟩
  rw [leftPad32_length] at hv
  exact Nat.not_le.mpr hv (Nat.le_max_left ..)

theorem pathOf_prefix (k : PathKind) (src dst : Bytes) (seq : UInt64) : ∃ tl, pathOf k src dst seq = prefixOf k ++ tl := by
  unfold pathOf
  repeat rw [List.append_assoc]
  exact ⟨_, rfl⟩

/-- the hashed preimages of a commitment slot and an acknowledgement slot always differ (first byte `c` vs `a`), so the
    two kinds of slot can coincide only through a Keccak collision -/
theorem preimage_commitment_ne_ack (src dst src' dst' : Bytes) (seq seq' : UInt64) :
    pathOf .commitment src dst seq ++ slotIndexWord ≠ pathOf .ack src' dst' seq' ++ slotIndexWord := by
  obtain ⟨tl, e⟩ := pathOf_prefix .commitment src dst seq
  obtain ⟨tl', e'⟩ := pathOf_prefix .ack src' dst' seq'
  rw [e, e']
  intro h
  exact absurd (List.cons.inj h).1 (by decide)

theorem slot_kind_separated (env : Env) (src dst src' dst' : Bytes) (seq seq' : UInt64)
    (hinj : ∀ a b, env.keccak a = env.keccak b → a = b) :
    slotOf env .commitment src dst seq ≠ slotOf env .ack src' dst' seq' :=
  fun h => preimage_commitment_ne_ack src dst src' dst' seq seq' (hinj _ _ h)

/-- **slot_binds_full_path.** The hashed preimage is the whole path followed by the 32-byte slot index, for paths of
    every length: two different paths (of any lengths — 160 bytes and more included) give different preimages, so their
    slots can coincide only through a Keccak collision. -/
theorem slot_binds_full_path (p p' : Bytes) (h : p ≠ p') : p ++ slotIndexWord ≠ p' ++ slotIndexWord :=
  fun e => h (List.append_cancel_right e)

/-- in terms of `slotOf`: with a collision-free hash equal slots mean equal paths, as byte strings (`pathOf` is not shown
    injective in its components: chain names containing `/` can give one path) -/
theorem slotOf_eq_imp_path_eq (env : Env) (hinj : ∀ a b, env.keccak a = env.keccak b → a = b)
    (k k' : PathKind) (src dst src' dst' : Bytes) (seq seq' : UInt64)
    (h : slotOf env k src dst seq = slotOf env k' src' dst' seq') :
    pathOf k src dst seq = pathOf k' src' dst' seq' :=
  List.append_cancel_right (hinj _ _ h)

/-- a path cut at any length `n` shorter than itself (a fixed-size buffer) is another preimage: the slot derived from a
    truncated path is not the slot of the path -/
theorem truncated_path_other_preimage (p : Bytes) (n : Nat) (hn : n < p.length) :
    p.take n ++ slotIndexWord ≠ p ++ slotIndexWord := by
  apply slot_binds_full_path
  intro e
  have hl := congrArg List.length e
  rw [List.length_take, Nat.min_eq_left (Nat.le_of_lt hn)] at hl
  exact Nat.ne_of_lt hn hl

theorem slotIndexWord_length : slotIndexWord.length = 32 := by
  rw [slotIndexWord, List.length_append, List.length_replicate, List.length_singleton]

/-- the hashed preimage `path ‖ slotIndexWord` is `path.length + 32` bytes long, whatever the path length -/
theorem slot_preimage_length (k : PathKind) (src dst : Bytes) (seq : UInt64) :
    (pathOf k src dst seq ++ slotIndexWord).length = (pathOf k src dst seq).length + 32 := by
  rw [List.length_append, slotIndexWord_length]

/-! ## non-vacuity: a concrete accepted proof, a sound environment, and the theorems applied to it -/

namespace Example

/-- toy hash: the last 32 bytes, left-padded (so that slots are 32 bytes long) -/
def toyKeccak (b : Bytes) : Bytes := bytesToHash b

/-- record: address "ab", nonce "1", balance "0", storage hash "07", code hash "09", one storage proof for key "d0" -/
def toyProof : Proof :=
  { address := [0x61, 0x62], balance := [0x30], codeHash := [0x30, 0x39], nonce := [0x31], storageHash := [0x30, 0x37],
    accountProof := [], storageProof := [some { key := [0x64, 0x30], value := [], proof := [] }] }

def toyAccount : Bytes := rlpAccount (hexToHash [0x31]) (hexToHash [0x30]) (hexToHash [0x30, 0x37]) (hexToHash [0x30, 0x39])

/-- the "tries": under any root, key keccak(0xab) holds the account; under the storage root 0x…07 the slot key holds
    the RLP string 0x05 -/
def toySem (root key : Bytes) : Option Bytes :=
  if key = toyKeccak [0xab] then some toyAccount
  else if root = hexToHash [0x30, 0x37] ∧ key = toyKeccak slotIndexWord then some [0x05]
  else none

def toyEnv : Env :=
  { keccak := toyKeccak
    mpt := fun root key _ => match toySem root key with | some v => .value v | none => .absent }

def toyCs : ClientState := { kind := .bsc, head := ⟨0, 120⟩, contract := [0xab], blockDelay := 0, nValidators := 21 }
/-- the stored state carries an inner `Height` of 0-0 (as after `CreateClient` with the field omitted) -/
def toyStore : ConsStore := [(⟨0, 100⟩, .state ⟨7, ⟨0, 0⟩, [0x01]⟩), (⟨0, 110⟩, .corrupt)]
def toyValue : Bytes := leftPad32 [0x05]

/-- accepted: BSC client with 21 validators (11 confirmation blocks), head 120, proof height 100 -/
theorem toy_accepted : verify toyEnv toyCs toyStore ⟨0, 100⟩ (.parsed toyProof) .commitment [] [] 0 toyValue = .ok () := by decide +kernel

/-- too recent: height 110 has only 10 confirmations -/
example : verify toyEnv toyCs ((⟨0, 110⟩, .state ⟨7, ⟨0, 0⟩, [0x01]⟩) :: toyStore) ⟨0, 110⟩ (.parsed toyProof) .commitment [] [] 0 toyValue
    = .err "delay" := by decide +kernel

/-- a `null` storage proof element panics (nil pointer dereference in the Go code) -/
example : verify toyEnv toyCs toyStore ⟨0, 100⟩ (.parsed { toyProof with storageProof := [none] }) .commitment [] [] 0 toyValue
    = .panic "nil-storage-result" := by decide +kernel

theorem toyEnv_sound : MptSound toyEnv toySem := by
  intro root key nodes v h
  dsimp only [toyEnv] at h
  generalize toySem root key = o at h ⊢
  cases o with
  | none => cases h
  | some w => cases h; rfl

/-- `binds` applied: the hypotheses are satisfiable and the conclusion is about a non-trivial state -/
example : ∃ cons, toyStore.get ⟨0, 100⟩ = some (.state cons) ∧ HeightRule toyCs ⟨0, 100⟩ ∧
    StateHolds toyEnv toySem (bytesToHash cons.root) toyCs.contract (slotOf toyEnv .commitment [] [] 0) toyValue :=
  binds toyEnv_sound toy_accepted

/-! a node-sensitive environment: every verification step needs the node 0xee in ITS node list -/

def toyEnv2 : Env :=
  { keccak := toyKeccak
    mpt := fun root key nodes => if [0xee] ∈ nodes then toyEnv.mpt root key nodes else .invalid }

def toyPath (_ _ : Bytes) : List Bytes := [[0xee]]

theorem toyEnv2_needsPath : MptNeedsPath toyEnv2 toyPath := by
  intro root key nodes v h n hn
  cases List.mem_singleton.mp hn
  refine Decidable.by_contra fun hm => ?_
  dsimp only [toyEnv2] at h
  rw [if_neg hm] at h
  cases h

/-- complete proofs ("ee" in both lists): accepted -/
example : verify toyEnv2 toyCs toyStore ⟨0, 100⟩
    (.parsed { toyProof with accountProof := [[0x65, 0x65]], storageProof := [some { key := [0x64, 0x30], value := [], proof := [[0x65, 0x65]] }] })
    .commitment [] [] 0 toyValue = .ok () := by decide +kernel

/-- the storage node moved into `account_proof` (storage proof empty): rejected at the storage step -/
example : verify toyEnv2 toyCs toyStore ⟨0, 100⟩
    (.parsed { toyProof with accountProof := [[0x65, 0x65], [0x65, 0x65]], storageProof := [some { key := [0x64, 0x30], value := [], proof := [] }] })
    .commitment [] [] 0 toyValue = .err "storage-proof" := by decide +kernel

end Example

/-! ## life cycle: the configured delay is the delay in force -/

namespace Life

/-- the configuration part of a stored client (`Life`): everything but the latest header. Not the model's `Config`, which is
    what a create / upgrade proposal carries. -/
structure Conf where
  kind : ClientKind
  contract : Bytes
  blockDelay : UInt64
  nValidators : Nat
  chainId : UInt64
  trusting : UInt64
  timeDelay : UInt64
  deriving DecidableEq

def confOf (l : Life) : Conf :=
  { kind := l.cs.kind, contract := l.cs.contract, blockDelay := l.cs.blockDelay, nValidators := l.cs.nValidators,
    chainId := l.chainId, trusting := l.trusting, timeDelay := l.timeDelay }

/-- **update_preserves_configuration.** A header update changes the head (and the stored header) and adds a consensus
    state; every other field of the stored client state — contract, chain id, trusting period, TimeDelay, BlockDelay — is
    unchanged. -/
theorem update_preserves_configuration (l : Life) (h : Height) (hash parent root : Bytes) (time : UInt64) :
    confOf (update l h hash parent root time) = confOf l := rfl

theorem applyUpd_preserves_configuration (l : Life) (u : Upd) : confOf (applyUpd l u) = confOf l := by
  unfold applyUpd; split
  · exact update_preserves_configuration ..
  · rfl

/-- … after any number of accepted or rejected updates -/
theorem updates_preserve_configuration (l : Life) (us : List Upd) : confOf (applyUpds l us) = confOf l := by
  induction us generalizing l with
  | nil => rfl
  | cons u us ih => simp only [applyUpds, List.foldl_cons] at *; rw [ih, applyUpd_preserves_configuration]

theorem delayBlock_of_conf {l l' : Life} (h : confOf l' = confOf l) : l'.cs.delayBlock = l.cs.delayBlock := by
  obtain ⟨hk, _, hb, hn, _⟩ := Conf.mk.inj h
  unfold ClientState.delayBlock
  rw [hk, hb, hn]

/-- **configured_delay_in_force.** Create (or upgrade, toggle) with configuration `c`, apply any header updates, verify on
    the stored state: acceptance implies `proof block + c.blockDelay ≤ head block` with the BlockDelay of the
    proposal, for every TimeDelay, and the contract checked is the configured one. -/
theorem configured_delay_in_force (env : Env) (c : Config) (old : ConsStore) (oh : List Hdr) (us : List Upd) (h : Height) (proof : ProofArg)
    (k : PathKind) (src dst : Bytes) (seq : UInt64) (value : Bytes)
    (hacc : verifyStored env (applyUpds (fromConfig c old oh) us) h proof k src dst seq value = .ok ()) :
    h.rh.toNat + c.blockDelay.toNat ≤ (applyUpds (fromConfig c old oh) us).cs.head.rh.toNat
    ∧ (applyUpds (fromConfig c old oh) us).cs.contract = c.contract := by
  have hc := updates_preserve_configuration (fromConfig c old oh) us
  have hg := (delay_gate hacc).2
  rw [delayBlock_of_conf hc] at hg
  exact ⟨hg, congrArg Conf.contract hc⟩

/-- a proposal with TimeDelay ≠ BlockDelay, head at height 10 -/
def toyConfig : Config :=
  { contract := [1], chainId := 4, trusting := 9, timeDelay := 0, blockDelay := 3,
    head := ⟨0, 10⟩, headHash := [7], cons := ⟨1, ⟨0, 10⟩, [2]⟩ }

/-- 10 ← 11 accepted, 12 refused once and then accepted -/
def toyUpds : List Upd :=
  [⟨true, ⟨0, 11⟩, [8], [7], [3], 2⟩, ⟨false, ⟨0, 12⟩, [9], [8], [4], 3⟩, ⟨true, ⟨0, 12⟩, [9], [8], [4], 3⟩]

/-- … then a competing child 11' of 10 is accepted: the head moves DOWN to height 11 -/
def toyReorg : List Upd := toyUpds ++ [⟨true, ⟨0, 11⟩, [0x18], [7], [5], 4⟩]

def lastAccepted : List Upd → Option Upd
  | [] => none
  | u :: us => match lastAccepted us with
    | some v => some v
    | none => if u.accepted then some u else none

/-- **head_follows_last_accepted_update.** After any sequence of accepted / rejected updates — extensions, siblings,
    height-DEcreasing ones — the stored head (height and header) is the one of the last accepted update; with no accepted
    update it is unchanged. The head is not a maximum over the history. -/
theorem head_follows_last_accepted_update (l : Life) (us : List Upd) :
    (applyUpds l us).cs.head = (match lastAccepted us with | some u => u.h | none => l.cs.head)
    ∧ (applyUpds l us).headHash = (match lastAccepted us with | some u => u.hash | none => l.headHash) := by
  induction us generalizing l with
  | nil => exact ⟨rfl, rfl⟩
  | cons u us ih =>
    unfold applyUpds at ih ⊢
    rw [List.foldl_cons]
    unfold lastAccepted
    generalize lastAccepted us = o at ih ⊢
    cases o with
    | some v => exact ih _
    | none =>
      -- no later update was accepted: `u` decides
      unfold applyUpd
      cases u.accepted
      · exact ih l
      · exact ih _

/-- the reorganisation moves the head down and re-points height 11; the abandoned state at height 12 stays stored, above
    the head -/
example : (applyUpds (create toyConfig) toyReorg).cs.head = ⟨0, 11⟩
    ∧ (applyUpds (create toyConfig) toyReorg).store.get ⟨0, 11⟩ = some (.state ⟨4, ⟨0, 11⟩, [5]⟩)
    ∧ (applyUpds (create toyConfig) toyReorg).store.get ⟨0, 12⟩ = some (.state ⟨3, ⟨0, 12⟩, [4]⟩)
    ∧ (confOf (applyUpds (create toyConfig) toyReorg)).blockDelay = 3 := by decide +kernel

/-- … and no proof at the abandoned height 12 is accepted any more (it is above the head), whatever the proof -/
theorem above_head_rejected_after_reorg (env : Env) (proof : ProofArg) (k : PathKind) (src dst : Bytes) (seq : UInt64) (value : Bytes) :
    verifyStored env (applyUpds (create toyConfig) toyReorg) ⟨0, 12⟩ proof k src dst seq value ≠ .ok () := by
  -- the head is back at block 11, three confirmation blocks are asked for
  refine too_recent_or_future_rejected env _ _ _ proof k src dst seq value ?_
  decide +kernel

/-- non-vacuity: TimeDelay ≠ BlockDelay, and both are kept through two accepted updates and a rejected one -/
example : (confOf (applyUpds (create toyConfig) toyUpds)).blockDelay = 3
    ∧ (confOf (applyUpds (create toyConfig) toyUpds)).timeDelay = 0
    ∧ (applyUpds (create toyConfig) toyUpds).cs.head = ⟨0, 12⟩ := by decide +kernel

end Life

end TM.EvmProof
