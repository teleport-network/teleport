import TeleportModel.Model.Abi
import TeleportModel.Model.Json
import TeleportModel.Generated.AbiTuples
import TeleportModel.Proofs.C19Abi
import TeleportModel.Proofs.C19Json
/-
C19 — the obligations over the GENERATED tables (tools/gofacts regenerates them from evm.go, packet.go
and the *.pb.go structs on every run). A changed tuple component, JSON tag, field type or a new all-static
tuple breaks one of the evaluations below; the instantiated round-trip theorems then no longer build.
The `*Layout_wf` facts say that the model of Model/Abi.lean (a dynamic tuple behind an offset word) is the code path these
layouts take; no theorem takes `Layout.WF` as a hypothesis, `decode_encode` holds without it.
-/
namespace TM.C19
open TM TM.Abi TM.Json TM.Generated

theorem packetLayout_wf : AbiTuples.tuplePacketData.WF := by decide +kernel
theorem packet_tagsMatch : TagsMatch AbiTuples.tuplePacketData AbiTuples.packetSchema := by decide +kernel
theorem packet_covers : Covers AbiTuples.tuplePacketData AbiTuples.packetSchema := by decide +kernel

/-- `ABIDecode(ABIPack(p)) = p` for every packet with valid UTF-8 strings -/
theorem packet_decode_encode (sv : List Val) (b : Bytes)
    (hty : sv.map Val.ty = AbiTuples.packetSchema.map (·.ty)) (hu : ∀ v ∈ sv, strOk v = true)
    (hp : packStruct AbiTuples.tuplePacketData AbiTuples.packetSchema sv = some b) (hsz : b.length < 2 ^ 256) :
    decodeStruct AbiTuples.tuplePacketData AbiTuples.packetSchema b = some sv :=
  decode_encode _ _ sv b packet_tagsMatch packet_covers hty hu hp hsz

theorem transferDataLayout_wf : AbiTuples.tupleTransferData.WF := by decide +kernel
theorem transferData_tagsMatch : TagsMatch AbiTuples.tupleTransferData AbiTuples.transferDataSchema := by decide +kernel
theorem transferData_covers : Covers AbiTuples.tupleTransferData AbiTuples.transferDataSchema := by decide +kernel

theorem transferData_decode_encode (sv : List Val) (b : Bytes)
    (hty : sv.map Val.ty = AbiTuples.transferDataSchema.map (·.ty)) (hu : ∀ v ∈ sv, strOk v = true)
    (hp : packStruct AbiTuples.tupleTransferData AbiTuples.transferDataSchema sv = some b) (hsz : b.length < 2 ^ 256) :
    decodeStruct AbiTuples.tupleTransferData AbiTuples.transferDataSchema b = some sv :=
  decode_encode _ _ sv b transferData_tagsMatch transferData_covers hty hu hp hsz

theorem callDataLayout_wf : AbiTuples.tupleCallData.WF := by decide +kernel
theorem callData_tagsMatch : TagsMatch AbiTuples.tupleCallData AbiTuples.callDataSchema := by decide +kernel
theorem callData_covers : Covers AbiTuples.tupleCallData AbiTuples.callDataSchema := by decide +kernel

theorem callData_decode_encode (sv : List Val) (b : Bytes)
    (hty : sv.map Val.ty = AbiTuples.callDataSchema.map (·.ty)) (hu : ∀ v ∈ sv, strOk v = true)
    (hp : packStruct AbiTuples.tupleCallData AbiTuples.callDataSchema sv = some b) (hsz : b.length < 2 ^ 256) :
    decodeStruct AbiTuples.tupleCallData AbiTuples.callDataSchema b = some sv :=
  decode_encode _ _ sv b callData_tagsMatch callData_covers hty hu hp hsz

theorem resultLayout_wf : AbiTuples.tupleRecvPacketResultData.WF := by decide +kernel
theorem result_tagsMatch : TagsMatch AbiTuples.tupleRecvPacketResultData AbiTuples.resultSchema := by decide +kernel
theorem result_covers : Covers AbiTuples.tupleRecvPacketResultData AbiTuples.resultSchema := by decide +kernel

theorem result_decode_encode (sv : List Val) (b : Bytes)
    (hty : sv.map Val.ty = AbiTuples.resultSchema.map (·.ty)) (hu : ∀ v ∈ sv, strOk v = true)
    (hp : packStruct AbiTuples.tupleRecvPacketResultData AbiTuples.resultSchema sv = some b) (hsz : b.length < 2 ^ 256) :
    decodeStruct AbiTuples.tupleRecvPacketResultData AbiTuples.resultSchema b = some sv :=
  decode_encode _ _ sv b result_tagsMatch result_covers hty hu hp hsz

/-! ### the decode / encode METHODS do nothing but Pack, resp. Unpack + the JSON round trip -/

/-- regenerated from the method bodies of packet.go: no statement after (or between) Unpack, json.Marshal, json.Unmarshal
    touches a field, and ABIPack is a bare Arguments.Pack — so the round-trip theorems (`*_decode_encode`, here and in C19Ack) are about the methods themselves -/
theorem abiDecode_is_pure_roundtrip : ∀ b ∈ AbiTuples.bindings, b.decodePure = true ∧ b.packPure = true := by decide +kernel

/-- encode (decode b) = b for the canonical bytes, hence the commitment recomputed from the decoded value is the hash of b -/
theorem reencode_struct (L : Layout) (S : Schema) (sv : List Val) (b : Bytes)
    (ht : TagsMatch L S) (hc : Covers L S) (hty : sv.map Val.ty = S.map (·.ty)) (hu : ∀ v ∈ sv, strOk v = true)
    (hp : packStruct L S sv = some b) (hsz : b.length < 2 ^ 256) :
    (decodeStruct L S b).bind (packStruct L S) = some b := by
  rw [decode_encode L S sv b ht hc hty hu hp hsz]; exact hp

theorem commitment_of_decoded (hash : Bytes → Bytes) (L : Layout) (S : Schema) (sv : List Val) (b : Bytes)
    (ht : TagsMatch L S) (hc : Covers L S) (hty : sv.map Val.ty = S.map (·.ty)) (hu : ∀ v ∈ sv, strOk v = true)
    (hp : packStruct L S sv = some b) (hsz : b.length < 2 ^ 256) :
    ((decodeStruct L S b).bind (packStruct L S)).map hash = some (hash b) := by
  rw [reencode_struct L S sv b ht hc hty hu hp hsz]; rfl

/-! ### EventSendPacket: only the `packet` bytes are part of the tuple (no `Covers`, by design) -/
theorem eventLayout_wf : AbiTuples.tuplePacketSendData.WF := by decide +kernel
theorem event_tagsMatch : TagsMatch AbiTuples.tuplePacketSendData AbiTuples.eventSendPacketSchema := by decide +kernel

/-- every binding found in packet.go is one of the six that have obligations here or in C19Ack (a new ABIPack/ABIDecode pair must get its own
    obligations) -/
theorem bindings_known : AbiTuples.bindings.map (·.name) =
    ["Acknowledgement", "CallData", "EventSendPacket", "Packet", "Result", "TransferData"] := rfl

/-! ### the defect F11 (/repo before fix 432ba14) as a concrete witness: a component named `feeOption` does not reach `json:"fee_option"` -/

def f11Layout : Layout := [
  { name := [99, 111, 100, 101], ty := .uint64 },
  { name := [102, 101, 101, 79, 112, 116, 105, 111, 110], ty := .uint64 } /- "feeOption" -/,
  { name := [114, 101, 115, 117, 108, 116], ty := .bytes }]
def f11Schema : Schema := [
  { goName := [67, 111, 100, 101], jsonName := [99, 111, 100, 101], ty := .uint64 },
  { goName := [82, 101, 115, 117, 108, 116], jsonName := [114, 101, 115, 117, 108, 116], ty := .bytes },
  { goName := [70, 101, 101, 79, 112, 116, 105, 111, 110], jsonName := [102, 101, 101, 95, 111, 112, 116, 105, 111, 110], ty := .uint64 }]

theorem f11_tags_do_not_match : ¬ TagsMatch f11Layout f11Schema := by decide +kernel

/-- FeeOption 7 is packed, decoded as 0 (observed on the real code: 7 ↦ 0) -/
theorem f11_fee_option_lost :
    (packStruct f11Layout f11Schema [.u64 1, .bytes [], .u64 7]).bind (decodeStruct f11Layout f11Schema)
      = some [.u64 1, .bytes [], .u64 0] := by decide +kernel

/-! ### non-vacuity -/

def samplePacket : List Val :=
  [.str [97, 98, 99], .str [0xE2, 0x80, 0xA8], .u64 18446744073709551615, .str [], .bytes [0, 47, 255], .bytes [], .str [60, 62, 38], .u64 7]

example : samplePacket.map Val.ty = AbiTuples.packetSchema.map (·.ty) := by decide +kernel
example : ∀ v ∈ samplePacket, strOk v = true := by decide +kernel
set_option maxRecDepth 100000 in
example : (packStruct AbiTuples.tuplePacketData AbiTuples.packetSchema samplePacket).isSome = true := by decide +kernel

end TM.C19
