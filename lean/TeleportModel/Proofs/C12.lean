import TeleportModel.Model.Registry
/-
C12 — the token-pair registry stays self-consistent under every governance action.
-/
namespace TM.Registry

/-! ### finite-map lemmas -/
namespace Map
variable {κ ν : Type} [DecidableEq κ]

theorem find_del (m : Map κ ν) (k k' : κ) : (m.del k).find k' = if k = k' then none else m.find k' := by
  induction m with
  | nil => simp [del, find]
  | cons e t ih =>
    obtain ⟨a, v⟩ := e
    simp only [del, List.filter] at ih ⊢
    by_cases ha : a = k
    · subst ha
      simp only [decide_true, Bool.not_true]
      rw [ih]
      by_cases hk : a = k'
      · simp [hk]
      · simp [find, hk]
    · simp only [ha, decide_false, Bool.not_false]
      simp only [find]
      rw [ih]
      by_cases hk : k = k'
      · subst hk; simp [ha]
      · simp [hk]

theorem find_ins (m : Map κ ν) (k k' : κ) (v : ν) : (m.ins k v).find k' = if k = k' then some v else m.find k' := by
  simp only [ins, find]
  by_cases hk : k = k'
  · simp [hk]
  · simp [hk, find_del]

theorem find_insAll (m : Map κ ν) (ks : List κ) (v : ν) (k' : κ) :
    (m.insAll ks v).find k' = if k' ∈ ks then some v else m.find k' := by
  induction ks generalizing m with
  | nil => simp [insAll]
  | cons k t ih =>
    simp only [insAll, List.foldl_cons] at ih ⊢
    rw [ih]
    by_cases h1 : k' ∈ t
    · simp [h1]
    · simp only [h1, if_false, find_ins, List.mem_cons, or_false]
      by_cases h2 : k = k'
      · simp [h2]
      · simp [h2, Ne.symm h2]

theorem find_delAll (m : Map κ ν) (ks : List κ) (k' : κ) :
    (m.delAll ks).find k' = if k' ∈ ks then none else m.find k' := by
  induction ks generalizing m with
  | nil => simp [delAll]
  | cons k t ih =>
    simp only [delAll, List.foldl_cons] at ih ⊢
    rw [ih]
    by_cases h1 : k' ∈ t
    · simp [h1]
    · simp only [h1, if_false, find_del, List.mem_cons, or_false]
      by_cases h2 : k = k'
      · simp [h2]
      · simp [h2, Ne.symm h2]

theorem find_ins_some {m : Map κ ν} {k k' : κ} {v w : ν} (h : (m.ins k v).find k' = some w) :
    k = k' ∧ w = v ∨ k ≠ k' ∧ m.find k' = some w := by
  rw [find_ins] at h
  by_cases e : k = k'
  · rw [if_pos e] at h; exact Or.inl ⟨e, (Option.some.inj h).symm⟩
  · rw [if_neg e] at h; exact Or.inr ⟨e, h⟩

theorem find_insAll_some {m : Map κ ν} {ks : List κ} {k' : κ} {v w : ν} (h : (m.insAll ks v).find k' = some w) :
    k' ∈ ks ∧ w = v ∨ k' ∉ ks ∧ m.find k' = some w := by
  rw [find_insAll] at h
  by_cases e : k' ∈ ks
  · rw [if_pos e] at h; exact Or.inl ⟨e, (Option.some.inj h).symm⟩
  · rw [if_neg e] at h; exact Or.inr ⟨e, h⟩

theorem find_del_some {m : Map κ ν} {k k' : κ} {w : ν} (h : (m.del k).find k' = some w) :
    k ≠ k' ∧ m.find k' = some w := by
  rw [find_del] at h
  by_cases e : k = k'
  · rw [if_pos e] at h; cases h
  · rw [if_neg e] at h; exact ⟨e, h⟩

theorem find_delAll_some {m : Map κ ν} {ks : List κ} {k' : κ} {w : ν} (h : (m.delAll ks).find k' = some w) :
    k' ∉ ks ∧ m.find k' = some w := by
  rw [find_delAll] at h
  by_cases e : k' ∈ ks
  · rw [if_pos e] at h; cases h
  · rw [if_neg e] at h; exact ⟨e, h⟩

theorem find_ins_still {m : Map κ ν} {k k' : κ} {v v' w : ν} (P : ν → Prop) (hk : m.find k = some v) (hw : m.find k' = some w)
    (h1 : w = v → P v') (h2 : P w) : ∃ w', (m.ins k v').find k' = some w' ∧ P w' := by
  by_cases e : k = k'
  · subst e; rw [hk] at hw; cases hw; exact ⟨v', by rw [find_ins, if_pos rfl], h1 rfl⟩
  · exact ⟨w, by rw [find_ins, if_neg e]; exact hw, h2⟩

theorem find_ins_self (m : Map κ ν) (k : κ) (v : ν) : (m.ins k v).find k = some v := by
  rw [find_ins, if_pos rfl]

theorem find_ins_ne (m : Map κ ν) {k k' : κ} (v : ν) (e : k ≠ k') : (m.ins k v).find k' = m.find k' := by
  rw [find_ins, if_neg e]


theorem mem_entriesAux (m : Map κ ν) : ∀ (seen : List κ) (k : κ) (v : ν),
    (k, v) ∈ entriesAux seen m ↔ k ∉ seen ∧ m.find k = some v := by
  induction m with
  | nil => intro seen k v; simp [entriesAux, find]
  | cons e t ih =>
    obtain ⟨k0, v0⟩ := e
    intro seen k v
    unfold entriesAux
    by_cases hs : seen.contains k0 = true
    · rw [if_pos hs, ih]
      have hk0 : k0 ∈ seen := by simpa using hs
      refine and_congr_right fun h1 => ?_
      have : ¬ k0 = k := fun e => h1 (e ▸ hk0)
      simp only [find, this, if_false]
    · rw [if_neg hs]
      have hk0 : k0 ∉ seen := by simpa using hs
      simp only [List.mem_cons, Prod.mk.injEq, ih, not_or]
      by_cases e : k0 = k
      · subst e
        simp only [find, if_true]
        constructor
        · rintro (⟨_, hv⟩ | ⟨⟨hne, _⟩, _⟩)
          · exact ⟨hk0, by rw [hv]⟩
          · exact absurd trivial hne
        · rintro ⟨_, hv⟩
          exact Or.inl ⟨trivial, (Option.some.inj hv).symm⟩
      · simp only [find, e, if_false]
        have e' : ¬ k = k0 := fun x => e x.symm
        constructor
        · rintro (⟨hk, _⟩ | ⟨⟨_, h1⟩, h2⟩)
          · exact absurd hk e'
          · exact ⟨h1, h2⟩
        · rintro ⟨h1, h2⟩
          exact Or.inr ⟨⟨e', h1⟩, h2⟩

theorem mem_entries (m : Map κ ν) (k : κ) (v : ν) : (k, v) ∈ entries m ↔ m.find k = some v := by
  unfold entries
  rw [mem_entriesAux]
  simp

theorem entriesAux_pairwise (m : Map κ ν) : ∀ (seen : List κ),
    (entriesAux seen m).Pairwise (fun e f => e.1 ≠ f.1) := by
  induction m with
  | nil => intro _; exact List.Pairwise.nil
  | cons e t ih =>
    obtain ⟨k0, v0⟩ := e
    intro seen
    unfold entriesAux
    split
    · exact ih seen
    · refine List.pairwise_cons.mpr ⟨?_, ih _⟩
      rintro ⟨k, v⟩ hf (e : k0 = k)
      exact ((mem_entriesAux t (k0 :: seen) k v).mp hf).1 (e ▸ List.mem_cons_self ..)

theorem entries_pairwise (m : Map κ ν) : (entries m).Pairwise (fun e f => e.1 ≠ f.1) := entriesAux_pairwise m []

end Map

open Map

section
variable {Id : Type} [DecidableEq Id]

/-! ### the property -/

/-- The registry is self-consistent (the statement of C12):
every pair is found by its contract address and by EACH of its denominations; every address / denomination entry
points to an existing pair that lists it; no contract and no denomination belongs to two pairs. -/
structure Consistent (r : Reg Id) : Prop where
  found : ∀ id p, r.pairs.find id = some p →
      r.byErc.find p.addr = some id ∧ ∀ d, d ∈ p.denoms → r.byDen.find d = some id
  ercOk : ∀ a id, r.byErc.find a = some id → ∃ p, r.pairs.find id = some p ∧ p.addr = a
  denOk : ∀ d id, r.byDen.find d = some id → ∃ p, r.pairs.find id = some p ∧ d ∈ p.denoms
  disjoint : ∀ id₁ id₂ p₁ p₂, r.pairs.find id₁ = some p₁ → r.pairs.find id₂ = some p₂ →
      (p₁.addr = p₂.addr ∨ ∃ d, d ∈ p₁.denoms ∧ d ∈ p₂.denoms) → id₁ = id₂

/-- collision freeness of the id hash on `address | denomination` strings (explicit assumption) -/
def HashInj (H : String → Denom → Id) : Prop := ∀ a d a' d', H a d = H a' d' → a = a' ∧ d = d'

variable (H : String → Denom → Id)

/-- The inductive invariant: consistency, every pair is stored under its own id (`GetID`), and every registered
denomination has bank metadata (this is what makes the `IsDenomRegistered(Name)` guard of RegisterCoin / AddCoin
sufficient: `verifyMetadata` rejects a coin whose metadata exists). -/
structure Inv (r : Reg Id) : Prop where
  found : ∀ id p, r.pairs.find id = some p →
      r.byErc.find p.addr = some id ∧ ∀ d, d ∈ p.denoms → r.byDen.find d = some id
  ercOk : ∀ a id, r.byErc.find a = some id → ∃ p, r.pairs.find id = some p ∧ p.addr = a
  denOk : ∀ d id, r.byDen.find d = some id → ∃ p, r.pairs.find id = some p ∧ d ∈ p.denoms
  keyed : ∀ id p, r.pairs.find id = some p → getID H p = some id
  backed : ∀ d id, r.byDen.find d = some id → (r.metas.find d).isSome = true

theorem Inv.consistent {r : Reg Id} (h : Inv H r) : Consistent r where
  found := h.found
  ercOk := h.ercOk
  denOk := h.denOk
  disjoint := by
    intro id₁ id₂ p₁ p₂ h₁ h₂ hor
    have f₁ := h.found id₁ p₁ h₁
    have f₂ := h.found id₂ p₂ h₂
    rcases hor with ha | ⟨d, hd₁, hd₂⟩
    · have := f₁.1; rw [ha, f₂.1] at this; exact (Option.some.inj this).symm
    · have e₁ := f₁.2 d hd₁; rw [f₂.2 d hd₂] at e₁; exact (Option.some.inj e₁).symm

theorem inv_empty : Inv H ({} : Reg Id) where
  found := by intro id p h; cases h
  ercOk := by intro a id h; cases h
  denOk := by intro a id h; cases h
  keyed := by intro id p h; cases h
  backed := by intro a id h; cases h

omit [DecidableEq Id] in
theorem getID_some {p : Pair} {id : Id} (h : getID H p = some id) : ∃ d ds, p.denoms = d :: ds ∧ id = H p.addrStr d := by
  unfold getID at h
  split at h
  · simp at h
  · next d ds hd => exact ⟨d, ds, hd, (Option.some.inj h).symm⟩

/-! ### the three registry transformations every action is made of -/

/-- a new pair (address string `s` spelling the contract `a`) with an unregistered contract and unregistered
denominations -/
theorem inv_insert (hH : HashInj H) {r : Reg Id} (h : Inv H r) (a : Addr) (s : String) (hs : addrOf s = a) (d0 : Denom) (ds : List Denom) (en : Bool) (ow : Nat)
    (metas' : Map Denom Meta)
    (ha : r.byErc.find a = none) (hds : ∀ d, d ∈ d0 :: ds → r.byDen.find d = none)
    (hm1 : ∀ d, (r.metas.find d).isSome = true → (metas'.find d).isSome = true)
    (hm2 : ∀ d, d ∈ d0 :: ds → (metas'.find d).isSome = true) :
    Inv H { r with metas := metas', pairs := r.pairs.ins (H s d0) ⟨s, d0 :: ds, en, ow⟩,
                   byDen := r.byDen.insAll (d0 :: ds) (H s d0), byErc := r.byErc.ins a (H s d0) } := by
  -- the new id is not in use: by collision freeness its pair would have the address string `s`, hence the contract `a`
  have fresh : ∀ id p, r.pairs.find id = some p → H s d0 ≠ id := by
    intro id p hp e
    obtain ⟨d, ds', _, hid⟩ := getID_some H (h.keyed id p hp)
    have := (hH s d0 p.addrStr d (e.trans hid)).1
    have f := (h.found id p hp).1
    have hpa : p.addr = a := by unfold Pair.addr; rw [← this]; exact hs
    rw [hpa, ha] at f; cases f
  refine ⟨?_, ?_, ?_, ?_, ?_⟩
  · intro id p hp
    rcases find_ins_some hp with ⟨rfl, rfl⟩ | ⟨_, hp⟩
    · refine ⟨?_, fun d hd => ?_⟩
      · show (r.byErc.ins a _).find (addrOf s) = _
        rw [hs]; exact find_ins_self ..
      · show (r.byDen.insAll _ _).find d = _
        rw [find_insAll, if_pos hd]
    · have f := h.found id p hp
      refine ⟨?_, fun d hd => ?_⟩
      · show (r.byErc.ins a _).find p.addr = _
        rw [find_ins_ne _ _ (fun e => by rw [← e, ha] at f; cases f.1)]; exact f.1
      · show (r.byDen.insAll _ _).find d = _
        rw [find_insAll, if_neg (fun e => by have := f.2 d hd; rw [hds d e] at this; cases this)]; exact f.2 d hd
  · intro a' id hid
    rcases find_ins_some hid with ⟨rfl, rfl⟩ | ⟨_, hid⟩
    · exact ⟨_, find_ins_self .., hs⟩
    · obtain ⟨p, hp, hpa⟩ := h.ercOk a' id hid
      exact ⟨p, (find_ins_ne _ _ (fresh id p hp)).trans hp, hpa⟩
  · intro d id hid
    rcases find_insAll_some hid with ⟨e, rfl⟩ | ⟨_, hid⟩
    · exact ⟨_, find_ins_self .., e⟩
    · obtain ⟨p, hp, hpd⟩ := h.denOk d id hid
      exact ⟨p, (find_ins_ne _ _ (fresh id p hp)).trans hp, hpd⟩
  · intro id p hp
    rcases find_ins_some hp with ⟨rfl, rfl⟩ | ⟨_, hp⟩
    · rfl
    · exact h.keyed id p hp
  · intro d id hid
    rcases find_insAll_some hid with ⟨e, _⟩ | ⟨_, hid⟩
    · exact hm2 d e
    · exact hm1 d (h.backed d id hid)

/-- `DeleteTokenPair` of a stored pair: nothing of it is left, everything else is untouched -/
theorem inv_delete {r : Reg Id} (h : Inv H r) (id : Id) (p : Pair) (hp : r.pairs.find id = some p) :
    Inv H { r with pairs := r.pairs.del id, byErc := r.byErc.del p.addr, byDen := r.byDen.delAll p.denoms } := by
  have fp := h.found id p hp
  have other : ∀ {id' p'}, r.pairs.find id' = some p' → id ≠ id' → (r.pairs.del id).find id' = some p' :=
    fun hp' e => by rw [find_del, if_neg e]; exact hp'
  refine ⟨?_, ?_, ?_, ?_, ?_⟩
  · intro id' p' hp'
    obtain ⟨e, hp'⟩ := find_del_some hp'
    have f := h.found id' p' hp'
    refine ⟨?_, fun d hd => ?_⟩
    · show (r.byErc.del _).find _ = _
      rw [find_del, if_neg (fun e2 => e (by have := fp.1; rw [e2, f.1] at this; exact (Option.some.inj this).symm))]
      exact f.1
    · show (r.byDen.delAll _).find _ = _
      rw [find_delAll, if_neg (fun e3 => e (by have := fp.2 d e3; rw [f.2 d hd] at this; exact (Option.some.inj this).symm))]
      exact f.2 d hd
  · intro a' id' hid
    obtain ⟨e, hid⟩ := find_del_some hid
    obtain ⟨p', hp', hpa⟩ := h.ercOk a' id' hid
    exact ⟨p', other hp' (fun e2 => by subst e2; rw [hp] at hp'; cases hp'; exact e hpa), hpa⟩
  · intro d id' hid
    obtain ⟨e, hid⟩ := find_delAll_some hid
    obtain ⟨p', hp', hpd⟩ := h.denOk d id' hid
    exact ⟨p', other hp' (fun e2 => by subst e2; rw [hp] at hp'; cases hp'; exact e hpd), hpd⟩
  · intro id' p' hp'
    exact h.keyed id' p' (find_del_some hp').2
  · intro d id' hid
    exact h.backed d id' (find_delAll_some hid).2

/-- a stored pair is overwritten by one with the same address string and the same denominations (ToggleRelay) -/
theorem inv_replace {r : Reg Id} (h : Inv H r) (id : Id) (p p' : Pair) (hp : r.pairs.find id = some p)
    (hstr : p'.addrStr = p.addrStr) (hd : p'.denoms = p.denoms) :
    Inv H { r with pairs := r.pairs.ins id p' } := by
  have ha : p'.addr = p.addr := by unfold Pair.addr; rw [hstr]
  refine ⟨?_, ?_, ?_, ?_, h.backed⟩
  · intro id' q hq
    rcases find_ins_some hq with ⟨rfl, rfl⟩ | ⟨_, hq⟩
    · rw [ha, hd]; exact h.found _ p hp
    · exact h.found id' q hq
  · intro a' id' hid
    obtain ⟨q, hq, hqa⟩ := h.ercOk a' id' hid
    exact find_ins_still (·.addr = a') hp hq (fun e => by rw [ha, ← e]; exact hqa) hqa
  · intro d id' hid
    obtain ⟨q, hq, hqd⟩ := h.denOk d id' hid
    exact find_ins_still (d ∈ ·.denoms) hp hq (fun e => by rw [hd, ← e]; exact hqd) hqd
  · intro id' q hq
    rcases find_ins_some hq with ⟨rfl, rfl⟩ | ⟨_, hq⟩
    · have kp := h.keyed _ p hp
      unfold getID at kp ⊢; rw [hstr, hd]; exact kp
    · exact h.keyed id' q hq

/-- one more (unregistered, metadata-backed) denomination is appended to a stored pair (AddCoin) -/
theorem inv_extend {r : Reg Id} (h : Inv H r) (id : Id) (p : Pair) (b : Denom) (metas' : Map Denom Meta)
    (hp : r.pairs.find id = some p) (hb : r.byDen.find b = none)
    (hm1 : ∀ d, (r.metas.find d).isSome = true → (metas'.find d).isSome = true)
    (hm2 : (metas'.find b).isSome = true) :
    Inv H { r with metas := metas', pairs := r.pairs.ins id { p with denoms := p.denoms ++ [b] },
                   byDen := r.byDen.ins b id } := by
  have fp := h.found id p hp
  -- an old denomination `d` of any pair is not `b`, which was unregistered
  have old : ∀ {d id'}, r.byDen.find d = some id' → (r.byDen.ins b id).find d = some id' :=
    fun hd => (find_ins_ne _ _ (fun e => by subst e; rw [hb] at hd; cases hd)).trans hd
  refine ⟨?_, ?_, ?_, ?_, ?_⟩
  · intro id' q hq
    rcases find_ins_some hq with ⟨rfl, rfl⟩ | ⟨_, hq⟩
    · refine ⟨fp.1, fun d hd => ?_⟩
      rcases List.mem_append.mp hd with hd | hd
      · exact old (fp.2 d hd)
      · rw [List.mem_singleton.mp hd]; exact find_ins_self ..
    · exact ⟨(h.found id' q hq).1, fun d hd => old ((h.found id' q hq).2 d hd)⟩
  · intro a' id' hid
    obtain ⟨q, hq, hqa⟩ := h.ercOk a' id' hid
    exact find_ins_still (v' := { p with denoms := p.denoms ++ [b] }) (·.addr = a') hp hq (fun e => e ▸ hqa) hqa
  · intro d id' hid
    rcases find_ins_some hid with ⟨rfl, rfl⟩ | ⟨_, hid⟩
    · exact ⟨_, find_ins_self .., List.mem_append_right _ (List.mem_singleton.mpr rfl)⟩
    · obtain ⟨q, hq, hqd⟩ := h.denOk d id' hid
      exact find_ins_still (v' := { p with denoms := p.denoms ++ [b] }) (d ∈ ·.denoms) hp hq
        (fun e => List.mem_append_left _ (e ▸ hqd)) hqd
  · intro id' q hq
    rcases find_ins_some hq with ⟨rfl, rfl⟩ | ⟨_, hq⟩
    · obtain ⟨d, ds, hds, hid⟩ := getID_some H (h.keyed _ p hp)
      simp [getID, hds, hid]
    · exact h.keyed id' q hq
  · intro d id' hid
    rcases find_ins_some hid with ⟨rfl, _⟩ | ⟨_, hid⟩
    · exact hm2
    · exact hm1 d (h.backed d id' hid)


/-! ### `verifyMetadata` and `MintingEnabled` -/

theorem verifyMetadata_some {metas metas' : Map Denom Meta} {m : Meta} (h : verifyMetadata metas m = some metas') :
    (∀ d, (metas.find d).isSome = true → (metas'.find d).isSome = true) ∧ (metas'.find m.base).isSome = true ∧
    (hasDisplayUnit m = true → metas.find m.base = none) := by
  unfold verifyMetadata at h
  split at h
  · next hn =>
    cases h
    refine ⟨?_, by simp [find_ins], fun _ => hn⟩
    intro d hd
    rw [find_ins]
    split
    · rfl
    · exact hd
  · next st hs =>
    split at h
    · next heq =>
      cases h
      refine ⟨fun _ hd => hd, by simp [hs], ?_⟩
      intro hdu
      exfalso
      unfold equalMetadata at heq
      split at heq
      · split at heq
        · cases heq
        · next hlen =>
          have hlen : st.units.length = m.units.length := Classical.not_not.mp hlen
          have : m.units = [] := by
            have h0 : st.units = [] := by simpa using heq
            rw [h0] at hlen
            exact List.eq_nil_of_length_eq_zero hlen.symm
          simp [hasDisplayUnit, this] at hdu
      · cases heq
    · cases h

theorem mintingEnabled_some {r : Reg Id} {t d : String} {p : Pair} (h : mintingEnabled r t d = some p) :
    ∃ id, r.pairs.find id = some p ∧ tokenPairID r t = some id ∧ tokenPairID r d = some id := by
  unfold mintingEnabled at h
  split at h
  · cases h
  · simp only at h
    split at h
    · cases h
    · next heq =>
      split at h
      · cases h
      · next id hid =>
        split at h
        · cases h
        · next p' hp' =>
          split at h
          · cases h
          · cases h
            refine ⟨id, hp', hid, ?_⟩
            have := Classical.not_not.mp heq
            rw [this, hid]

/-! ### what each action does: it is refused and leaves the registry as it is, or it makes one write

One walk through the guards per handler. The invariant, the survival of index entries and the absence of panics are all
read off these. -/

/-- a stored pair without denominations: what `GetID` (`Denoms[0]`) panics on. `Inv.keyed` excludes it. -/
def Unkeyed (r : Reg Id) : Prop := ∃ id p, r.pairs.find id = some p ∧ getID H p = none

theorem Inv.not_unkeyed {r : Reg Id} (h : Inv H r) : ¬ Unkeyed H r := by
  rintro ⟨id, p, hp, hn⟩
  rw [h.keyed id p hp] at hn; cases hn

theorem registerCoin_spec (r : Reg Id) (vb hs ev dk : Bool) (a : Addr) (s : String) (m : Meta) :
    step H r (.registerCoin vb hs ev dk a s m) = (r, .err) ∨
    ∃ metas', verifyMetadata r.metas m = some metas' ∧ hasDisplayUnit m = true ∧ dk = true ∧
      step H r (.registerCoin vb hs ev dk a s m) =
        ({ r with metas := metas', pairs := r.pairs.ins (H s m.base) ⟨s, [m.base], true, 1⟩,
                  byDen := r.byDen.insAll [m.base] (H s m.base), byErc := r.byErc.ins a (H s m.base) }, .ok) := by
  simp only [step, stepWith, registerCoin]
  cases vb <;> cases hdu : hasDisplayUnit m <;> cases r.enabled <;> simp only [Bool.false_and, Bool.true_and, Bool.not_false, Bool.not_true, Option.isSome, if_true, if_false, Bool.false_eq_true, true_or]
  cases ev <;> cases r.byDen.find m.name <;> cases hs <;> simp only [Bool.not_false, Bool.not_true, if_true, if_false, Bool.false_eq_true, true_or]
  cases hvm : verifyMetadata r.metas m <;> simp only [true_or]
  cases hu : m.units with
  | nil => simp [hasDisplayUnit, hu] at hdu      -- `DenomUnits[0]` cannot panic: the display unit is one of the units
  | cons u us =>
    cases dk <;> simp only [Bool.not_false, Bool.not_true, if_true, if_false, Bool.false_eq_true, true_or]
    exact Or.inr ⟨_, rfl, trivial, trivial, rfl⟩

theorem addCoin_spec (r : Reg Id) (vb hs ev : Bool) (c : String) (m : Meta) :
    step H r (.addCoin vb hs ev c m) = (r, .err) ∨
    ∃ metas' id p, verifyMetadata r.metas m = some metas' ∧ hasDisplayUnit m = true ∧ r.pairs.find id = some p ∧
      step H r (.addCoin vb hs ev c m) =
        ({ r with metas := metas', pairs := r.pairs.ins id { p with denoms := p.denoms ++ [m.base] },
                  byDen := r.byDen.ins m.base id }, .ok) := by
  simp only [step, stepWith, addCoin]
  cases vb <;> cases hdu : hasDisplayUnit m <;> cases hexAddr? c <;> simp only [Bool.false_and, Bool.true_and, Bool.not_false, Bool.not_true, Option.isSome, if_true, if_false, Bool.false_eq_true, true_or]
  cases r.enabled <;> cases ev <;> cases r.byDen.find m.name <;> simp only [Bool.not_false, Bool.not_true, if_true, if_false, Bool.false_eq_true, true_or]
  cases hs <;> cases hvm : verifyMetadata r.metas m <;> simp only [Bool.not_false, Bool.not_true, if_true, if_false, Bool.false_eq_true, true_or]
  cases r.byErc.find _ <;> simp only [true_or]
  cases hp : r.pairs.find _ <;> simp only [true_or]
  rename_i metas' id p
  -- `GetID` of the extended pair reads `(p.denoms ++ [m.base])[0]`: never empty
  obtain ⟨id', hg⟩ : ∃ id', getID H { p with denoms := p.denoms ++ [m.base] } = some id' := by
    unfold getID
    cases hd : p.denoms <;> exact ⟨_, rfl⟩
  simp only [hg]
  by_cases e : id = id'
  · subst e
    simp only [ne_eq, not_true_eq_false, if_false]
    exact Or.inr ⟨metas', id, p, rfl, trivial, hp, rfl⟩
  · simp only [ne_eq, e, not_false_eq_true, if_true, true_or]

theorem registerERC20_spec (r : Reg Id) (vb : Bool) (a : Addr) (s : String) (q : Option ERC20Data)
    (san den desc : String) (mv : Bool) :
    step H r (.registerERC20 vb a s q san den desc mv) = (r, .err) ∨
    ∃ md : Meta, r.byErc.find a = none ∧ r.byDen.find den = none ∧
      step H r (.registerERC20 vb a s q san den desc mv) =
        ({ r with metas := r.metas.ins den md, pairs := r.pairs.ins (H s den) ⟨s, [den], true, 2⟩,
                  byDen := r.byDen.insAll [den] (H s den), byErc := r.byErc.ins a (H s den) }, .ok) := by
  simp only [step, stepWith, registerERC20]
  cases vb <;> cases r.enabled <;> cases r.byErc.find a <;> cases q <;> simp only [Bool.not_false, Bool.not_true, Option.isSome, if_true, if_false, Bool.false_eq_true, true_or]
  cases r.metas.find den <;> cases r.byDen.find den <;> cases mv <;> simp only [Bool.not_false, Bool.not_true, if_true, if_false, Bool.false_eq_true, true_or]
  exact Or.inr ⟨_, trivial, trivial, rfl⟩

theorem toggleRelay_spec (r : Reg Id) (vb : Bool) (t : String) :
    step H r (.toggle vb t) = (r, .err) ∨ (step H r (.toggle vb t) = (r, .panic) ∧ Unkeyed H r) ∨
    ∃ id p id', r.pairs.find id = some p ∧ getID H p = some id' ∧
      step H r (.toggle vb t) = ({ r with pairs := r.pairs.ins id' { p with enabled := !p.enabled } }, .ok) := by
  simp only [step, stepWith, toggleRelay]
  cases vb <;> simp only [Bool.not_true, Bool.not_false, if_true, if_false, Bool.false_eq_true, true_or]
  cases tokenPairID r t <;> simp only [true_or]
  cases hp : r.pairs.find _ <;> simp only [true_or]
  rename_i id p
  -- the toggled pair has the address string and the denominations of `p`: same `GetID`
  cases hg : getID H { p with enabled := !p.enabled } with
  | none => exact Or.inr (Or.inl ⟨rfl, id, p, hp, hg⟩)
  | some id' => exact Or.inr (Or.inr ⟨id, p, id', hp, hg, rfl⟩)

theorem updateERC20_spec (r : Reg Id) (vb : Bool) (o n : Addr) (ns : String) (q : Option ERC20Data) (d1 d2 : String) :
    step H r (.update vb o n ns q d1 d2) = (r, .err) ∨ (step H r (.update vb o n ns q d1 d2) = (r, .panic) ∧ Unkeyed H r) ∨
    ∃ id p d0 tl, ∃ md : Meta, r.pairs.find id = some p ∧ r.byErc.find n = none ∧ p.denoms = d0 :: tl ∧
      step H r (.update vb o n ns q d1 d2) =
        ({ r with metas := r.metas.ins md.base { md with desc := d2 },
                  pairs := (r.pairs.del (H p.addrStr d0)).ins (H ns d0) ⟨ns, d0 :: tl, p.enabled, p.owner⟩,
                  byDen := (r.byDen.delAll (d0 :: tl)).insAll (d0 :: tl) (H ns d0),
                  byErc := (r.byErc.del p.addr).ins n (H ns d0) }, .ok) := by
  simp only [step, stepWith, if_true, updateERC20]
  cases vb <;> simp only [Bool.not_true, Bool.not_false, if_true, if_false, Bool.false_eq_true, true_or]
  cases r.byErc.find o <;> simp only [true_or]
  cases hp : r.pairs.find _ <;> simp only [true_or]
  rename_i id p
  cases hn : r.byErc.find n <;> simp only [Option.isSome, if_true, if_false, Bool.false_eq_true, true_or]
  cases hds : p.denoms with
  | nil => exact Or.inr (Or.inl ⟨rfl, id, p, hp, by simp only [getID, hds]⟩)
  | cons d0 tl =>
    simp only
    cases updateChecks r d0 q d1 <;> simp only [true_or]
    simp only [deleteTokenPair, getID, hds]
    exact Or.inr (Or.inr ⟨id, p, d0, tl, _, hp, trivial, hds, rfl⟩)

theorem convert_spec (r : Reg Id) (vb : Bool) (t d : String) (l : List Addr) :
    step H r (.convert vb t d l) = (r, .rej) ∨ step H r (.convert vb t d l) = (r, .conv) ∨
    (step H r (.convert vb t d l) = (r, .panic) ∧ Unkeyed H r) ∨
    ∃ p id id', mintingEnabled r t d = some p ∧ l.contains p.addr = false ∧ r.pairs.find id = some p ∧
      getID H p = some id' ∧ step H r (.convert vb t d l) =
        ({ r with pairs := r.pairs.del id', byErc := r.byErc.del p.addr, byDen := r.byDen.delAll p.denoms }, .del) := by
  simp only [step, stepWith, convert]
  cases vb <;> simp only [Bool.not_true, Bool.not_false, if_true, if_false, Bool.false_eq_true, true_or]
  cases hme : mintingEnabled r t d <;> simp only [true_or]
  rename_i p
  cases hl : l.contains p.addr <;> simp only [if_true, if_false, Bool.false_eq_true, true_or, or_true]
  obtain ⟨id, hp, _, _⟩ := mintingEnabled_some hme
  unfold deleteTokenPair
  cases hg : getID H p with
  | none => exact Or.inr (Or.inr (Or.inl ⟨rfl, id, p, hp, hg⟩))
  | some id' => exact Or.inr (Or.inr (Or.inr ⟨p, id, id', rfl, hl, hp, hg, rfl⟩))


/-! ### restart of the module from its own export is the identity -/

/-- two registries with the same content (as key-value stores) -/
structure Equiv (r r' : Reg Id) : Prop where
  enabled : r'.enabled = r.enabled
  metas : r'.metas = r.metas
  pairs : ∀ id, r'.pairs.find id = r.pairs.find id
  byErc : ∀ a, r'.byErc.find a = r.byErc.find a
  byDen : ∀ d, r'.byDen.find d = r.byDen.find d

theorem Inv.of_equiv {r r' : Reg Id} (h : Inv H r) (e : Equiv r r') : Inv H r' where
  found := by intro id p hp; rw [e.pairs] at hp; have := h.found id p hp; rw [e.byErc]; exact ⟨this.1, fun d hd => by rw [e.byDen]; exact this.2 d hd⟩
  ercOk := by intro a id ha; rw [e.byErc] at ha; obtain ⟨p, hp, hpa⟩ := h.ercOk a id ha; exact ⟨p, by rw [e.pairs]; exact hp, hpa⟩
  denOk := by intro d id hd; rw [e.byDen] at hd; obtain ⟨p, hp, hpd⟩ := h.denOk d id hd; exact ⟨p, by rw [e.pairs]; exact hp, hpd⟩
  keyed := by intro id p hp; rw [e.pairs] at hp; exact h.keyed id p hp
  backed := by intro d id hd; rw [e.byDen] at hd; rw [e.metas]; exact h.backed d id hd

/-- what `InitGenesis` of a list of pairs with pairwise different ids, contracts and denominations writes -/
theorem initGenesis_spec (ps : List Pair) : ∀ (q : Reg Id),
    (∀ p, p ∈ ps → p.denoms ≠ []) →
    ps.Pairwise (fun p p' => p.addr ≠ p'.addr ∧ (∀ d, d ∈ p.denoms → d ∉ p'.denoms) ∧ getID H p ≠ getID H p') →
    ∃ q', initGenesis H q ps = some q' ∧ q'.enabled = q.enabled ∧ q'.metas = q.metas ∧
      (∀ p, p ∈ ps → ∀ id, getID H p = some id →
          q'.pairs.find id = some p ∧ q'.byErc.find p.addr = some id ∧ ∀ d, d ∈ p.denoms → q'.byDen.find d = some id) ∧
      (∀ id, (∀ p, p ∈ ps → getID H p ≠ some id) → q'.pairs.find id = q.pairs.find id) ∧
      (∀ a, (∀ p, p ∈ ps → p.addr ≠ a) → q'.byErc.find a = q.byErc.find a) ∧
      (∀ d, (∀ p, p ∈ ps → d ∉ p.denoms) → q'.byDen.find d = q.byDen.find d) := by
  induction ps with
  | nil =>
    intro q _ _
    exact ⟨q, rfl, rfl, rfl, fun _ hp => (nomatch hp), fun _ _ => rfl, fun _ _ => rfl, fun _ _ => rfl⟩
  | cons p ps ih =>
    intro q hne hpw
    obtain ⟨hhead, htail⟩ := List.pairwise_cons.mp hpw
    have hpne := hne p (List.mem_cons_self ..)
    cases hdl : p.denoms with
    | nil => exact absurd hdl hpne
    | cons d0 ds =>
      have hgid : getID H p = some (H p.addrStr d0) := by simp [getID, hdl]
      let q1 : Reg Id := { q with pairs := q.pairs.ins (H p.addrStr d0) p, byDen := q.byDen.insAll p.denoms (H p.addrStr d0),
                                  byErc := q.byErc.ins p.addr (H p.addrStr d0) }
      obtain ⟨q', hq', he, hm, ha, hb, hc, hd⟩ := ih q1 (fun x hx => hne x (List.mem_cons_of_mem _ hx)) htail
      refine ⟨q', ?_, he, hm, ?_, ?_, ?_, ?_⟩
      · simp only [initGenesis, hgid]; exact hq'
      · intro x hx id hid
        rcases List.mem_cons.mp hx with rfl | hx
        · rw [hgid] at hid; cases hid
          refine ⟨?_, ?_, ?_⟩
          · rw [hb _ (fun y hy e => (hhead y hy).2.2 (by rw [hgid, e]))]; simp [q1, find_ins]
          · rw [hc _ (fun y hy e => (hhead y hy).1 e.symm)]; simp [q1, find_ins]
          · intro d hdm
            rw [hd _ (fun y hy hin => (hhead y hy).2.1 d hdm hin)]
            simp [q1, find_insAll, hdm]
        · exact ha x hx id hid
      · intro id hall
        rw [hb id (fun y hy => hall y (List.mem_cons_of_mem _ hy))]
        have : ¬ H p.addrStr d0 = id := fun e => hall p (List.mem_cons_self ..) (by rw [hgid, e])
        simp [q1, find_ins, this]
      · intro a hall
        rw [hc a (fun y hy => hall y (List.mem_cons_of_mem _ hy))]
        have : ¬ p.addr = a := hall p (List.mem_cons_self ..)
        simp [q1, find_ins, this]
      · intro d hall
        rw [hd d (fun y hy => hall y (List.mem_cons_of_mem _ hy))]
        have : d ∉ p.denoms := hall p (List.mem_cons_self ..)
        simp [q1, find_insAll, this]

/-- **RESTART.** Export → empty store → `InitGenesis` of a registry satisfying the invariant does not panic and gives the
same registry back (as key-value content): a restart in the middle of a history changes nothing the property talks about. -/
theorem restart_identity {r : Reg Id} (h : Inv H r) : ∃ r', restart H r = some r' ∧ Equiv r r' := by
  have hmem : ∀ p, p ∈ exportGenesis r ↔ ∃ id, r.pairs.find id = some p := by
    intro p
    unfold exportGenesis
    simp only [List.mem_map]
    constructor
    · rintro ⟨⟨k, v⟩, hm, rfl⟩; exact ⟨k, (mem_entries _ k v).mp hm⟩
    · rintro ⟨id, hp⟩; exact ⟨(id, p), (mem_entries _ id p).mpr hp, rfl⟩
  have hne : ∀ p, p ∈ exportGenesis r → p.denoms ≠ [] := by
    intro p hp
    obtain ⟨id, hid⟩ := (hmem p).mp hp
    obtain ⟨d, ds, hds, _⟩ := getID_some H (h.keyed id p hid)
    rw [hds]; exact List.cons_ne_nil _ _
  have hpw : (exportGenesis r).Pairwise
      (fun p p' => p.addr ≠ p'.addr ∧ (∀ d, d ∈ p.denoms → d ∉ p'.denoms) ∧ getID H p ≠ getID H p') := by
    unfold exportGenesis
    rw [List.pairwise_map]
    refine List.Pairwise.imp_of_mem ?_ (entries_pairwise r.pairs)
    rintro ⟨k, p⟩ ⟨k', p'⟩ he hf hkey
    have hp := (mem_entries _ k p).mp he
    have hp' := (mem_entries _ k' p').mp hf
    have hdis := (h.consistent).disjoint k k' p p' hp hp'
    refine ⟨fun e => hkey (hdis (Or.inl e)), fun d hd hd' => hkey (hdis (Or.inr ⟨d, hd, hd'⟩)), ?_⟩
    rw [h.keyed k p hp, h.keyed k' p' hp']
    exact fun e => hkey (Option.some.inj e)
  obtain ⟨r', hr', he, hm, ha, hb, hc, hd⟩ := initGenesis_spec H (exportGenesis r) (wipe r) hne hpw
  refine ⟨r', hr', ⟨he, hm, ?_, ?_, ?_⟩⟩
  · intro id
    cases hf : r.pairs.find id with
    | some p => exact (ha p ((hmem p).mpr ⟨id, hf⟩) id (h.keyed id p hf)).1
    | none =>
      rw [hb id]
      · rfl
      · intro p hp e
        obtain ⟨k, hk⟩ := (hmem p).mp hp
        cases Option.some.inj (e.symm.trans (h.keyed k p hk))
        rw [hf] at hk; cases hk
  · intro a
    cases hf : r.byErc.find a with
    | some id =>
      obtain ⟨p, hp, hpa⟩ := h.ercOk a id hf
      have := (ha p ((hmem p).mpr ⟨id, hp⟩) id (h.keyed id p hp)).2.1
      rw [hpa] at this; exact this
    | none =>
      rw [hc a]
      · rfl
      · intro p hp e
        obtain ⟨k, hk⟩ := (hmem p).mp hp
        have := (h.found k p hk).1
        rw [e, hf] at this; cases this
  · intro d
    cases hf : r.byDen.find d with
    | some id =>
      obtain ⟨p, hp, hpd⟩ := h.denOk d id hf
      exact (ha p ((hmem p).mpr ⟨id, hp⟩) id (h.keyed id p hp)).2.2 d hpd
    | none =>
      rw [hd d]
      · rfl
      · intro p hp hin
        obtain ⟨k, hk⟩ := (hmem p).mp hp
        have := (h.found k p hk).2 d hin
        rw [hf] at this; cases this

theorem restart_inv {r : Reg Id} (h : Inv H r) : Inv H (step H r .restart).1 := by
  obtain ⟨r', hr', he⟩ := restart_identity H h
  show Inv H (match restart H r with | some r' => (r', Status.ok) | none => (r, Status.panic)).1
  rw [hr']
  exact h.of_equiv H he

/-! ### all action sequences -/

/-- Assumptions about the environment of one action:
* the EVM (CREATE never returns an address that is in use): the address a successful `DeployERC20Contract` returns is
  not a registered contract;
* go-ethereum: the string `common.Address.String()` / `.Hex()` that an action stores in the pair parses back
  (`common.HexToAddress`) to the address it was made from. -/
def ActionFresh (r : Reg Id) : Action → Prop
  | .registerCoin _ _ _ dk addr str _ => dk = true → r.byErc.find addr = none ∧ addrOf str = addr
  | .registerERC20 _ addr str _ _ _ _ _ => addrOf str = addr
  | .update _ _ new newStr _ _ _ => addrOf newStr = new
  | _ => True

def FreshDeploys : Reg Id → List Action → Prop
  | _, [] => True
  | r, a :: as => ActionFresh r a ∧ FreshDeploys (step H r a).1 as

/-- the action is the self-destruct clean-up of the pair that lists `d` -/
def Deletes (r : Reg Id) (a : Action) (d : Denom) : Prop :=
  match a with
  | .convert _ t dn l => ∃ p, mintingEnabled r t dn = some p ∧ l.contains p.addr = false ∧ d ∈ p.denoms
  | _ => False

/-- What the theorems below need of the result `x` of one action on `r`. -/
structure StepOk (r : Reg Id) (a : Action) (x : Reg Id × Status) : Prop where
  /-- `Denoms[0]` in GetID / UpdateTokenPairERC20 and `DenomUnits[0]` in DeployERC20Contract are the index expressions a
  governance handler could die on -/
  noPanic : x.2 ≠ .panic
  inv : HashInj H → ActionFresh r a → Inv H x.1
  /-- every index entry by denomination is still there unless the action deletes its pair -/
  keeps : ∀ d id, r.byDen.find d = some id → ¬ Deletes r a d → ∃ id', x.1.byDen.find d = some id'

theorem step_ok {r : Reg Id} (h : Inv H r) (a : Action) : StepOk H r a (step H r a) := by
  have refused : ∀ st, st ≠ .panic → StepOk H r a (r, st) := fun st hst => ⟨hst, fun _ _ => h, fun d id hd _ => ⟨id, hd⟩⟩
  have hu := h.not_unkeyed H
  have grow : ∀ (b : Denom) (v : Meta) (d : Denom), (r.metas.find d).isSome = true → ((r.metas.ins b v).find d).isSome = true := by
    intro b v d hd
    rw [find_ins]; split
    · rfl
    · exact hd
  -- RegisterCoin / AddCoin: a registered base denomination has metadata (`backed`), and then `verifyMetadata` fails
  have unregistered : ∀ {m : Meta} {metas' : Map Denom Meta}, verifyMetadata r.metas m = some metas' →
      hasDisplayUnit m = true → r.byDen.find m.base = none := by
    intro m metas' hvm hdu
    cases hb : r.byDen.find m.base with
    | none => rfl
    | some id => have := h.backed _ _ hb; rw [(verifyMetadata_some hvm).2.2 hdu] at this; cases this
  have keep : ∀ {d id} (c : Prop) [Decidable c] (v : Id), r.byDen.find d = some id →
      ∃ id', (if c then some v else r.byDen.find d) = some id' := by
    intro d id c _ v hd; split
    · exact ⟨v, rfl⟩
    · exact ⟨id, hd⟩
  cases a with
  | setParams b => exact ⟨nofun, fun _ _ => ⟨h.found, h.ercOk, h.denOk, h.keyed, h.backed⟩, fun d id hd _ => ⟨id, hd⟩⟩
  | bankMeta m =>
    exact ⟨nofun, fun _ _ => ⟨h.found, h.ercOk, h.denOk, h.keyed, fun d id hd => grow _ _ d (h.backed d id hd)⟩,
      fun d id hd _ => ⟨id, hd⟩⟩
  | registerCoin vb hs ev dk addr str m =>
    rcases registerCoin_spec H r vb hs ev dk addr str m with e | ⟨metas', hvm, hdu, hdk, e⟩ <;> rw [e]
    · exact refused _ nofun
    · obtain ⟨hm1, hm2, _⟩ := verifyMetadata_some hvm
      refine ⟨nofun, fun hH hf => ?_, fun d id hd _ => ?_⟩
      · exact inv_insert H hH h addr str (hf hdk).2 m.base [] true 1 metas' (hf hdk).1
          (fun d hd => by rw [List.mem_singleton.mp hd]; exact unregistered hvm hdu) hm1
          (fun d hd => by rw [List.mem_singleton.mp hd]; exact hm2)
      · show ∃ id', (r.byDen.insAll _ _).find d = some id'
        rw [find_insAll]; exact keep _ _ hd
  | addCoin vb hs ev c m =>
    rcases addCoin_spec H r vb hs ev c m with e | ⟨metas', id, p, hvm, hdu, hp, e⟩ <;> rw [e]
    · exact refused _ nofun
    · obtain ⟨hm1, hm2, _⟩ := verifyMetadata_some hvm
      refine ⟨nofun, fun _ _ => inv_extend H h id p m.base metas' hp (unregistered hvm hdu) hm1 hm2, fun d id hd _ => ?_⟩
      show ∃ id', (r.byDen.ins _ _).find d = some id'
      rw [find_ins]; exact keep _ _ hd
  | registerERC20 vb a str q s dn ds mv =>
    rcases registerERC20_spec H r vb a str q s dn ds mv with e | ⟨md, ha, hden, e⟩ <;> rw [e]
    · exact refused _ nofun
    · refine ⟨nofun, fun hH hf => ?_, fun d id hd _ => ?_⟩
      · exact inv_insert H hH h a str hf dn [] true 2 _ ha (fun x hx => by rw [List.mem_singleton.mp hx]; exact hden)
          (grow dn md) (fun x hx => by rw [List.mem_singleton.mp hx, find_ins, if_pos rfl]; rfl)
      · show ∃ id', (r.byDen.insAll _ _).find d = some id'
        rw [find_insAll]; exact keep _ _ hd
  | toggle vb t =>
    rcases toggleRelay_spec H r vb t with e | ⟨_, k⟩ | ⟨id, p, id', hp, hg, e⟩
    · rw [e]; exact refused _ nofun
    · exact absurd k hu
    · rw [e, h.keyed id p hp] at *; cases hg
      exact ⟨nofun, fun _ _ => inv_replace H h id p _ hp rfl rfl, fun d id hd _ => ⟨id, hd⟩⟩
  | update vb o n ns q d1 d2 =>
    rcases updateERC20_spec H r vb o n ns q d1 d2 with e | ⟨_, k⟩ | ⟨id, p, d0, tl, md, hp, hn, hds, e⟩
    · rw [e]; exact refused _ nofun
    · exact absurd k hu
    · rw [e]
      refine ⟨nofun, fun hH hf => ?_, fun d id hd _ => ?_⟩
      · -- delete the pair (stored under its own id, `keyed`), then insert it under the new address
        have hid : id = H p.addrStr d0 := by
          have := h.keyed id p hp; simp only [getID, hds] at this; exact (Option.some.inj this).symm
        have hdI := inv_delete H h id p hp
        have fp := h.found id p hp
        rw [hds] at fp hdI
        rw [← hid]
        refine inv_insert H hH hdI n ns hf d0 tl p.enabled p.owner _ ?_ (fun d hd => by rw [find_delAll, if_pos hd])
          (grow _ _) (fun d hd => grow _ _ d (h.backed d id (fp.2 d hd)))
        rw [find_del]; split
        · rfl
        · exact hn
      · -- every denomination the deletion un-indexes is indexed again under the new id
        show ∃ id', ((r.byDen.delAll (d0 :: tl)).insAll (d0 :: tl) _).find d = some id'
        rw [find_insAll, find_delAll]
        by_cases e : d ∈ d0 :: tl
        · exact ⟨_, if_pos e⟩
        · rw [if_neg e, if_neg e]; exact ⟨id, hd⟩
  | convert vb t dn l =>
    rcases convert_spec H r vb t dn l with e | e | ⟨_, k⟩ | ⟨p, id, id', hme, hl, hp, hg, e⟩
    · rw [e]; exact refused _ nofun
    · rw [e]; exact refused _ nofun
    · exact absurd k hu
    · rw [h.keyed id p hp] at hg; cases hg
      rw [e]
      refine ⟨nofun, fun _ _ => inv_delete H h id p hp, fun d i hd hn => ?_⟩
      show ∃ id', (r.byDen.delAll p.denoms).find d = some id'
      rw [find_delAll, if_neg (fun hin => hn ⟨p, hme, hl, hin⟩)]
      exact ⟨i, hd⟩
  | restart =>
    obtain ⟨r', hr', he⟩ := restart_identity H h
    show StepOk H r .restart (match restart H r with | some r' => (r', Status.ok) | none => (r, Status.panic))
    rw [hr']
    exact ⟨nofun, fun _ _ => h.of_equiv H he, fun d id hd _ => ⟨id, by rw [he.byDen]; exact hd⟩⟩

theorem step_inv (hH : HashInj H) {r : Reg Id} (h : Inv H r) (a : Action) (hf : ActionFresh r a) :
    Inv H (step H r a).1 :=
  (step_ok H h a).inv hH hf

theorem step_never_panics {r : Reg Id} (h : Inv H r) (a : Action) : (step H r a).2 ≠ Status.panic :=
  (step_ok H h a).noPanic


theorem runWith_nil (fixed : Bool) (r : Reg Id) : runWith H fixed r [] = r := rfl

theorem runWith_cons (fixed : Bool) (r : Reg Id) (a : Action) (as : List Action) :
    runWith H fixed r (a :: as) = runWith H fixed (stepWith H fixed r a).1 as := rfl

theorem runWith_split (n : Nat) (fixed : Bool) (as : List Action) :
    ∀ r : Reg Id, runWith H fixed r as = runWith H fixed (runWith H fixed r (as.take n)) (as.drop n) := by
  induction as generalizing n with
  | nil => intro r; simp [runWith]
  | cons a as ih =>
    intro r
    cases n with
    | zero => rfl
    | succ n => exact ih n _

theorem inv_run (hH : HashInj H) (as : List Action) : ∀ {r : Reg Id}, Inv H r → FreshDeploys H r as → Inv H (run H r as) := by
  induction as with
  | nil => intro r h _; exact h
  | cons a as ih =>
    intro r h hf
    exact ih (step_inv H hH h a hf.1) hf.2

/-- **C12.** Every sequence of governance actions and conversion messages (with the repaired UpdateTokenPairERC20)
leads from a consistent registry to a consistent registry. -/
theorem consistent_run (hH : HashInj H) {r₀ : Reg Id} (as : List Action) (h₀ : Inv H r₀) (hf : FreshDeploys H r₀ as) :
    Consistent (run H r₀ as) :=
  (inv_run H hH as h₀ hf).consistent

/-- in particular from the empty registry of a new chain -/
theorem consistent_from_genesis (hH : HashInj H) (as : List Action) (hf : FreshDeploys H ({} : Reg Id) as) :
    Consistent (run H ({} : Reg Id) as) :=
  consistent_run H hH as (inv_empty H) hf

/-! ### a convertible coin stays convertible -/

/-- lookup by denomination and by contract address lead to the same pair, which lists the denomination
(what `MintingEnabled` needs from the registry) -/
def Convertible (r : Reg Id) (d : Denom) : Prop :=
  ∃ id p, r.byDen.find d = some id ∧ r.pairs.find id = some p ∧ d ∈ p.denoms ∧ r.byErc.find p.addr = some id

def NoDelete (d : Denom) : Reg Id → List Action → Prop
  | _, [] => True
  | r, a :: as => ¬ Deletes r a d ∧ NoDelete d (step H r a).1 as

theorem convertible_iff {r : Reg Id} (h : Inv H r) (d : Denom) : Convertible r d ↔ ∃ id, r.byDen.find d = some id := by
  constructor
  · rintro ⟨id, _, hd, _⟩; exact ⟨id, hd⟩
  · rintro ⟨id, hd⟩
    obtain ⟨p, hp, hpd⟩ := h.denOk d id hd
    exact ⟨id, p, hd, hp, hpd, (h.found id p hp).1⟩

/-- **C12, consequence.** A coin that could be converted before a sequence of registry changes which does not delete its
pair (self-destruct clean-up) can still be converted afterwards: its denomination and the (possibly new) contract
address of its pair lead to the same pair, and that pair lists it. -/
theorem convertible_back (hH : HashInj H) (d : Denom) (as : List Action) :
    ∀ {r : Reg Id}, Inv H r → FreshDeploys H r as → Convertible r d → NoDelete H d r as → Convertible (run H r as) d := by
  induction as with
  | nil => intro r _ _ hc _; exact hc
  | cons a as ih =>
    intro r h hf hc hn
    have h' := step_inv H hH h a hf.1
    obtain ⟨id, hd⟩ := (convertible_iff H h d).mp hc
    have hc' := (convertible_iff H h' d).mpr ((step_ok H h a).keeps d id hd hn.1)
    exact ih h' hf.2 hc' hn.2

/-! ### genesis import -/

/-- What a genesis file must satisfy with respect to the registry it is imported into (the export of a consistent
registry, plus the bank genesis, does): every pair has a denomination; contracts — compared as 20-byte ADDRESSES
(`Pair.addr = HexToAddress(ERC20Address)`), whatever their spelling — and denominations are new and pairwise disjoint;
every denomination has bank metadata. NOTHING is required of the spelling of an address string (lower case, upper case,
with or without `0x`): `InitGenesis` computes the id from the string as written and stores the pair with the same string.
`GenesisState.Validate` checks much less (duplicates of the address STRING and of `Denoms[0]` only). -/
def GenesisOk (r : Reg Id) (ps : List Pair) : Prop :=
  (∀ p, p ∈ ps → p.denoms ≠ [] ∧ r.byErc.find p.addr = none ∧
      ∀ d, d ∈ p.denoms → r.byDen.find d = none ∧ (r.metas.find d).isSome = true) ∧
  ps.Pairwise (fun p q => p.addr ≠ q.addr ∧ ∀ d, d ∈ p.denoms → d ∉ q.denoms)

/-- **Genesis import, every spelling.** `InitGenesis` of a `GenesisOk` file does not panic and keeps the invariant —
in particular a pair written with a non-checksummed address is found by its contract address and by every denomination,
and (by `consistent_run` / `convertible_back` from the resulting state) stays so under all later actions. -/
theorem initGenesis_inv (hH : HashInj H) (ps : List Pair) :
    ∀ {r : Reg Id}, Inv H r → GenesisOk r ps → ∃ r', initGenesis H r ps = some r' ∧ Inv H r' := by
  induction ps with
  | nil => intro r h _; exact ⟨r, rfl, h⟩
  | cons p ps ih =>
    intro r h hg
    obtain ⟨hall, hpw⟩ := hg
    obtain ⟨hne, hfa, hfd⟩ := hall p (List.mem_cons_self ..)
    obtain ⟨s, dl, en, ow⟩ := p
    cases dl with
    | nil => exact absurd rfl hne
    | cons d0 ds =>
      have hpw' := List.pairwise_cons.mp hpw
      have h1 := inv_insert H hH h (addrOf s) s rfl d0 ds en ow r.metas hfa (fun d hd => (hfd d hd).1) (fun _ hd => hd)
        (fun d hd => (hfd d hd).2)
      have hg1 : GenesisOk
          { r with metas := r.metas, pairs := r.pairs.ins (H s d0) ⟨s, d0 :: ds, en, ow⟩,
                   byDen := r.byDen.insAll (d0 :: ds) (H s d0), byErc := r.byErc.ins (addrOf s) (H s d0) } ps := by
        refine ⟨?_, hpw'.2⟩
        intro q hq
        obtain ⟨qne, qfa, qfd⟩ := hall q (List.mem_cons_of_mem _ hq)
        have hdis := hpw'.1 q hq
        refine ⟨qne, ?_, ?_⟩
        · simp only [find_ins]
          have : ¬ addrOf s = q.addr := hdis.1
          simp only [this, if_false]; exact qfa
        · intro d hd
          simp only [find_insAll]
          have : d ∉ d0 :: ds := fun hin => hdis.2 d hin hd
          simp only [this, if_false]
          exact qfd d hd
      obtain ⟨r', hr', hI⟩ := ih h1 hg1
      refine ⟨r', ?_, hI⟩
      simp only [initGenesis, getID]
      exact hr'

/-- the same from the registry a chain starts with (only bank metadata) -/
theorem initGenesis_consistent (hH : HashInj H) (ps : List Pair) (metas : Map Denom Meta)
    (hg : GenesisOk ({ metas := metas } : Reg Id) ps) :
    ∃ r', initGenesis H ({ metas := metas } : Reg Id) ps = some r' ∧ Consistent r' := by
  have h0 : Inv H ({ metas := metas } : Reg Id) := by
    constructor <;> intro _ _ h <;> simp [Map.find] at h
  obtain ⟨r', hr', hI⟩ := initGenesis_inv H hH ps h0 hg
  exact ⟨r', hr', hI.consistent⟩

/-! ### the repaired `GenesisState.Validate` implies what the import needs -/

omit [DecidableEq Id] in
theorem addDenoms_some {seen seen' : List Denom} {ds : List Denom} (h : addDenoms seen ds = some seen') :
    (∀ d, d ∈ ds → d ∉ seen) ∧ ds.Nodup ∧ (∀ x, x ∈ seen' ↔ x ∈ seen ∨ x ∈ ds) := by
  induction ds generalizing seen with
  | nil =>
    cases h
    exact ⟨fun _ hd => (nomatch hd), List.nodup_nil, fun x => by simp⟩
  | cons d ds ih =>
    unfold addDenoms at h
    split at h
    · cases h
    · next hc =>
      have hd : d ∉ seen := by simpa using hc
      obtain ⟨h1, h2, h3⟩ := ih h
      refine ⟨?_, ?_, ?_⟩
      · intro x hx
        rcases List.mem_cons.mp hx with rfl | hx
        · exact hd
        · intro hs; exact h1 x hx (List.mem_cons_of_mem _ hs)
      · refine List.nodup_cons.mpr ⟨?_, h2⟩
        intro hin; exact h1 d hin (List.mem_cons_self ..)
      · intro x
        rw [h3 x]
        simp only [List.mem_cons]
        exact or_assoc.trans or_left_comm

omit [DecidableEq Id] in
theorem validateStrictAux_ok (ps : List Pair) : ∀ (seenE : List Addr) (seenD : List Denom),
    validateGenesisStrictAux seenE seenD ps = true →
    (∀ p, p ∈ ps → p.denoms ≠ [] ∧ p.addr ∉ seenE ∧ ∀ d, d ∈ p.denoms → d ∉ seenD) ∧
    ps.Pairwise (fun p q => p.addr ≠ q.addr ∧ ∀ d, d ∈ p.denoms → d ∉ q.denoms) := by
  induction ps with
  | nil => intro _ _ _; exact ⟨fun _ hp => (nomatch hp), List.Pairwise.nil⟩
  | cons p ps ih =>
    intro seenE seenD h
    unfold validateGenesisStrictAux at h
    split at h
    · cases h
    · next hne =>
      split at h
      · cases h
      · split at h
        · cases h
        · next hE =>
          split at h
          · cases h
          · next seenD' hadd =>
            obtain ⟨a1, _, a3⟩ := addDenoms_some hadd
            obtain ⟨i1, i2⟩ := ih _ _ h
            have hpE : p.addr ∉ seenE := by simpa using hE
            have hpne : p.denoms ≠ [] := by intro e; simp [e] at hne
            refine ⟨?_, List.pairwise_cons.mpr ⟨?_, i2⟩⟩
            · intro q hq
              rcases List.mem_cons.mp hq with rfl | hq
              · exact ⟨hpne, hpE, a1⟩
              · obtain ⟨q1, q2, q3⟩ := i1 q hq
                refine ⟨q1, fun hin => q2 (List.mem_cons_of_mem _ hin), ?_⟩
                intro d hd hs
                exact q3 d hd ((a3 d).mpr (Or.inl hs))
            · intro q hq
              obtain ⟨_, q2, q3⟩ := i1 q hq
              refine ⟨fun e => q2 (by rw [← e]; exact List.mem_cons_self ..), ?_⟩
              intro d hd hdq
              exact q3 d hdq ((a3 d).mpr (Or.inr hd))

/-- A genesis file that the REPAIRED `Validate` accepts, whose denominations have bank metadata, is imported into a
consistent registry — whatever the spelling of its addresses. (For the `Validate` of the unchanged tree this is false:
`Witness.validate_accepts_two_spellings`, `Witness.badGenesis`.) -/
theorem validateStrict_import_consistent (hH : HashInj H) (ps : List Pair) (metas : Map Denom Meta)
    (hv : validateGenesisStrict ps = true)
    (hm : ∀ p, p ∈ ps → ∀ d, d ∈ p.denoms → (metas.find d).isSome = true) :
    ∃ r', initGenesis H ({ metas := metas } : Reg Id) ps = some r' ∧ Consistent r' := by
  obtain ⟨h1, h2⟩ := validateStrictAux_ok ps [] [] hv
  refine initGenesis_consistent H hH ps metas ⟨?_, h2⟩
  intro p hp
  obtain ⟨q1, _, _⟩ := h1 p hp
  exact ⟨q1, rfl, fun d hd => ⟨rfl, hm p hp d hd⟩⟩

end

/-! ### the unrepaired UpdateTokenPairERC20 violates the property (finding F6), concrete witnesses;
    non-vacuity of the hypotheses of the theorems above -/

namespace Witness

/-- ids modelled by their preimage (address string as stored, denomination): trivially collision free -/
def Hp (a : String) (d : Denom) : String × Denom := (a, d)

theorem hp_inj : HashInj Hp := by
  intro a d a' d' h
  exact ⟨congrArg Prod.fst h, congrArg Prod.snd h⟩

abbrev R := Reg (String × Denom)

/- The witnesses below are concrete histories. Each is run once, by the kernel, and the registry it reaches is named; every
later fact is a lookup in that literal. (The kernel evaluates `addrOf` / `isHexAddressStr` / `hexAddr?` on a 42-character
string byte by byte: where such a call is in sight, it is rewritten by its lemma before `decide`.) -/
deriving instance DecidableEq for Reg

def e1 : Addr := "1111111111111111111111111111111111111111"
def e2 : Addr := "2222222222222222222222222222222222222222"
def e3 : Addr := "3333333333333333333333333333333333333333"
/-- `Address.String()` of the above (no letters: the EIP-55 spelling is the plain one) -/
def s1 : String := "0x1111111111111111111111111111111111111111"
def s2 : String := "0x2222222222222222222222222222222222222222"
def s3 : String := "0x3333333333333333333333333333333333333333"
/-- the string "0x1111111111111111111111111111111111111111" in the hex form of the line protocol -/
def e1Str : String := "307831313131313131313131313131313131313131313131313131313131313131313131313131313131"
def usdx : ERC20Data := ⟨"usdx", "USDX", 6⟩
def ccoin : Meta := { base := "ccoin", name := "ccoin", symbol := "CCOIN", display := "ccoin", desc := "c", units := [("ccoin", 0)] }

/-- `addrOf` on the characters of a string: a literal is its character list by `rfl`, so `addrOf "0x11…" = "11…"` becomes a
comparison of two character lists instead of an evaluation of `String.toList` / `String.ofList`. -/
theorem addrOf_ofList {cs cs' : List Char} (h : (strip0x cs).map lowerHex = cs') :
    addrOf (String.ofList cs) = String.ofList cs' := by
  simp [addrOf, h]

theorem isHexAddressStr_ofList {cs : List Char} (h : ((strip0x cs).length = 40 && (strip0x cs).all isHexChar) = true) :
    isHexAddressStr (String.ofList cs) = true := by
  simpa [isHexAddressStr] using h

/-- `hexAddr?` on the characters of a token string -/
def hexAddrChars (cs : List Char) : Option (List Char) :=
  match (if cs = ['-'] then some [] else TM.unhexChars cs) with
  | none => none
  | some bs =>
    let t := strip0x (bs.map (fun b => Char.ofNat b.toNat))
    if t.length = 40 ∧ t.all isHexChar then some (t.map lowerHex) else none

theorem hexAddr?_ofList (cs : List Char) : hexAddr? (String.ofList cs) = (hexAddrChars cs).map String.ofList := by
  have h : TM.unhex (String.ofList cs) = if cs = ['-'] then some [] else TM.unhexChars cs := by
    simp only [TM.unhex, String.toList_ofList, show ("-" : String) = String.ofList ['-'] from rfl, String.ofList_inj]
  unfold hexAddr? hexAddrChars
  rw [h]
  cases (if cs = ['-'] then some [] else TM.unhexChars cs) with
  | none => rfl
  | some bs =>
    show (if _ then _ else _) = Option.map _ (if _ then _ else _)
    split <;> rfl

theorem hexAddr?_e1Str : hexAddr? e1Str = some e1 :=
  (hexAddr?_ofList _).trans (congrArg (Option.map String.ofList) (show hexAddrChars _ = some _ by decide +kernel))

theorem addrOf_s1 : addrOf s1 = e1 := addrOf_ofList (by decide +kernel)
theorem addrOf_s2 : addrOf s2 = e2 := addrOf_ofList (by decide +kernel)
theorem addrOf_s3 : addrOf s3 = e3 := addrOf_ofList (by decide +kernel)

example : addrOf s1 = e1 ∧ addrOf s2 = e2 ∧ addrOf s3 = e3 := ⟨addrOf_s1, addrOf_s2, addrOf_s3⟩

/-- RegisterERC20(e1); AddCoin(ccoin → e1); UpdateTokenPairERC20(e1 → e3) -/
def multiDenom : List Action :=
  [ .registerERC20 true e1 s1 (some usdx) "usdx" "agg/e1" "desc/e1" true,
    .addCoin true true false e1Str ccoin,
    .update true e1 e3 s3 (some usdx) "desc/e1" "desc/e3" ]

/-- RegisterERC20(e1); RegisterERC20(e2); UpdateTokenPairERC20(e1 → e2) -/
def registeredTarget : List Action :=
  [ .registerERC20 true e1 s1 (some usdx) "usdx" "agg/e1" "desc/e1" true,
    .registerERC20 true e2 s2 (some usdx) "usdx" "agg/e2" "desc/e2" true,
    .update true e1 e2 s2 (some usdx) "desc/e1" "desc/e2" ]

theorem fresh_multiDenom : FreshDeploys Hp ({} : R) multiDenom :=
  ⟨addrOf_s1, True.intro, addrOf_s3, True.intro⟩

theorem fresh_registeredTarget : FreshDeploys Hp ({} : R) registeredTarget :=
  ⟨addrOf_s1, addrOf_s2, addrOf_s2, True.intro⟩

/-- the bank metadata RegisterERC20 creates for `usdx` at `agg/e1` -/
def aggMeta (desc : String) : Meta :=
  { base := "agg/e1", name := "agg/e1", symbol := "USDX", display := "usdx", desc := desc, units := [("agg/e1", 0), ("usdx", 6)] }

def pairAt (s : String) : Pair := ⟨s, ["agg/e1", "ccoin"], true, 2⟩

/-- the registry after RegisterERC20(e1); AddCoin(ccoin → e1) — there is no update yet, so under either variant -/
def afterAddCoin : R :=
  { pairs := [((s1, "agg/e1"), pairAt s1)], byErc := [(e1, (s1, "agg/e1"))],
    byDen := [("ccoin", (s1, "agg/e1")), ("agg/e1", (s1, "agg/e1"))],
    metas := [("ccoin", ccoin), ("agg/e1", aggMeta "desc/e1")] }

/- Rewriting only, up to the closed goal: a `show` or `rfl` between `runWith … (multiDenom.take 2)` and the nested steps would
make the kernel evaluate `hexAddr? e1Str` on the string after all. -/
theorem runWith_take2 (fixed : Bool) : runWith Hp fixed ({} : R) (multiDenom.take 2) = afterAddCoin := by
  rw [show multiDenom.take 2 = [multiDenom[0], multiDenom[1]] from rfl, runWith_cons, runWith_cons, runWith_nil]
  cases fixed <;>
    simp only [multiDenom, List.getElem_cons_zero, List.getElem_cons_succ, stepWith, addCoin, hexAddr?_e1Str] <;>
    decide +kernel

/-- … after the repaired UpdateTokenPairERC20(e1 → e3): both denominations follow the pair to its new id -/
def afterUpdate : R :=
  { pairs := [((s3, "agg/e1"), pairAt s3)], byErc := [(e3, (s3, "agg/e1"))],
    byDen := [("ccoin", (s3, "agg/e1")), ("agg/e1", (s3, "agg/e1"))],
    metas := [("agg/e1", aggMeta "desc/e3"), ("ccoin", ccoin)] }

/-- … after the function as it was: `ccoin` has lost its index entry -/
def afterUpdateOrig : R := { afterUpdate with byDen := [("agg/e1", (s3, "agg/e1"))] }

theorem run_multiDenom : run Hp ({} : R) multiDenom = afterUpdate := by
  rw [run, runWith_split Hp 2, runWith_take2]; decide +kernel

theorem runOrig_multiDenom : runOrig Hp ({} : R) multiDenom = afterUpdateOrig := by
  rw [runOrig, runWith_split Hp 2, runWith_take2]; decide +kernel

theorem inv_afterAddCoin : Inv Hp afterAddCoin :=
  runWith_take2 true ▸ inv_run Hp hp_inj (multiDenom.take 2) (inv_empty Hp) ⟨addrOf_s1, True.intro, True.intro⟩

theorem convertible_afterAddCoin : Convertible afterAddCoin "ccoin" :=
  (convertible_iff Hp inv_afterAddCoin "ccoin").2 ⟨(s1, "agg/e1"), by decide +kernel⟩

/-- F6 (a): the code as it was dropped the index entries of `Denoms[1..]`: the updated pair lists `ccoin`, the denomination
index does not know `ccoin` any more. -/
theorem updateOrig_drops_denominations : ¬ Consistent (runOrig Hp ({} : R) multiDenom) := by
  rw [runOrig_multiDenom]
  intro hc
  have h := (hc.found (s3, "agg/e1") (pairAt s3) (by decide +kernel)).2 "ccoin" (by decide +kernel)
  exact absurd h (by decide +kernel)

/-- … and the coin that was convertible before the update is not convertible afterwards (no pair was deleted) -/
theorem updateOrig_loses_convertibility :
    Convertible (runOrig Hp ({} : R) (multiDenom.take 2)) "ccoin" ∧
    ¬ Convertible (runOrig Hp ({} : R) multiDenom) "ccoin" := by
  rw [runOrig_multiDenom, runOrig, runWith_take2]
  refine ⟨convertible_afterAddCoin, ?_⟩
  rintro ⟨id, p, h, _⟩
  have hn : afterUpdateOrig.byDen.find "ccoin" = none := by decide +kernel
  rw [hn] at h; cases h

/-- F6 (b): the code as it was accepted a new address that already belongs to another pair: contract `e2` ends up in two
pairs. -/
theorem updateOrig_accepts_registered_address : ¬ Consistent (runOrig Hp ({} : R) registeredTarget) := by
  intro hc
  have h := hc.disjoint (s2, "agg/e1") (s2, "agg/e2") ⟨s2, ["agg/e1"], true, 2⟩ ⟨s2, ["agg/e2"], true, 2⟩
    (by decide +kernel) (by decide +kernel) (Or.inl rfl)
  exact absurd h (by decide +kernel)

/-- the same histories with the repaired function: the update of the multi-denomination pair succeeds and `ccoin` is
still found; the update onto a registered address is rejected (state unchanged). Consistency of both is an instance
of `consistent_run`. -/
example : Consistent (run Hp ({} : R) multiDenom) :=
  consistent_from_genesis Hp hp_inj multiDenom fresh_multiDenom

example : (run Hp ({} : R) multiDenom).byDen.find "ccoin" = some (s3, "agg/e1") := by rw [run_multiDenom]; decide +kernel
example : (run Hp ({} : R) multiDenom).byErc.find e3 = some (s3, "agg/e1") := by rw [run_multiDenom]; decide +kernel
example : (run Hp ({} : R) multiDenom).byErc.find e1 = none := by rw [run_multiDenom]; decide +kernel

/- `convertible_back` across the update, from the state the first two actions reach -/
example : Convertible (run Hp ({} : R) multiDenom) "ccoin" := by
  rw [run, runWith_split Hp 2, runWith_take2]
  exact convertible_back Hp hp_inj "ccoin" (multiDenom.drop 2) inv_afterAddCoin ⟨addrOf_s3, True.intro⟩
    convertible_afterAddCoin ⟨id, True.intro⟩

example : (step Hp (run Hp ({} : R) (registeredTarget.take 2)) (registeredTarget.getLast (by decide))).2 = Status.err := by
  decide +kernel

/-- the masked hole: RegisterCoin / AddCoin test `IsDenomRegistered(Name)`, not `Base`; a coin whose BASE is registered
(under another name) is still rejected, because `verifyMetadata` fails on every denomination that has metadata -/
example : (step Hp (run Hp ({} : R) (multiDenom.take 2))
    (.registerCoin true true false true e2 s2 { ccoin with name := "other" })).2 = Status.err := by
  rw [run, runWith_take2]; decide +kernel

/-- a restart in the middle of a history (non-vacuity of `restart_identity`; the histories of `consistent_run` may
contain `.restart` anywhere): after RegisterERC20, AddCoin, update the restarted registry answers as before, and a history
with a restart between every two actions is covered by `consistent_from_genesis`. -/
example : (restart Hp (run Hp ({} : R) multiDenom)).map (fun r => (r.byDen.find "ccoin", r.byErc.find e3, r.pairs.find (s3, "agg/e1")))
    = some (some (s3, "agg/e1"), some (s3, "agg/e1"), some ⟨s3, ["agg/e1", "ccoin"], true, 2⟩) := by
  rw [run_multiDenom, restart, show exportGenesis afterUpdate = [pairAt s3] from rfl, initGenesis,
    show (pairAt s3).addr = e3 from addrOf_s3]
  decide +kernel

def multiDenomRestarts : List Action :=
  [ .registerERC20 true e1 s1 (some usdx) "usdx" "agg/e1" "desc/e1" true, .restart,
    .addCoin true true false e1Str ccoin, .restart,
    .update true e1 e3 s3 (some usdx) "desc/e1" "desc/e3", .restart ]

example : Consistent (run Hp ({} : R) multiDenomRestarts) :=
  consistent_from_genesis Hp hp_inj multiDenomRestarts
    ⟨addrOf_s1, True.intro, True.intro, True.intro, addrOf_s3, True.intro, True.intro⟩

example : (run Hp ({} : R) multiDenomRestarts).byDen.find "ccoin" = some (s3, "agg/e1") := by decide +kernel

/-! #### genesis files: spellings of an address -/

/-- one contract, four spellings that `IsHexAddress` accepts -/
def ea : Addr := "abcdefabcdefabcdefabcdefabcdefabcdefabcd"
def eaLower : String := "0xabcdefabcdefabcdefabcdefabcdefabcdefabcd"
def eaUpper : String := "0XABCDEFABCDEFABCDEFABCDEFABCDEFABCDEFABCD"
def eaMixed : String := "0xabcdefABCDEFabcdefABCDEFabcdefABCDEFabcd"
def eaBare : String := "ABCDEFabcdefabcdefabcdefabcdefabcdefabcd"
/-- the token string "0xABCDEF…" (upper-case digits) in the hex form of the line protocol: what a proposal may use -/
def eaTokenUpper : String :=
  "307841424344454641424344454641424344454641424344454641424344454641424344454641424344"

theorem addrOf_eaLower : addrOf eaLower = ea := addrOf_ofList (by decide +kernel)
theorem addrOf_eaUpper : addrOf eaUpper = ea := addrOf_ofList (by decide +kernel)
theorem addrOf_eaMixed : addrOf eaMixed = ea := addrOf_ofList (by decide +kernel)
theorem addrOf_eaBare : addrOf eaBare = ea := addrOf_ofList (by decide +kernel)
theorem isHexAddressStr_eaLower : isHexAddressStr eaLower = true := isHexAddressStr_ofList (by decide +kernel)
theorem isHexAddressStr_eaUpper : isHexAddressStr eaUpper = true := isHexAddressStr_ofList (by decide +kernel)
theorem isHexAddressStr_eaMixed : isHexAddressStr eaMixed = true := isHexAddressStr_ofList (by decide +kernel)
theorem isHexAddressStr_eaBare : isHexAddressStr eaBare = true := isHexAddressStr_ofList (by decide +kernel)

example : [eaLower, eaUpper, eaMixed, eaBare].map addrOf = [ea, ea, ea, ea] := by
  simp only [List.map, addrOf_eaLower, addrOf_eaUpper, addrOf_eaMixed, addrOf_eaBare]
example : [eaLower, eaUpper, eaMixed, eaBare].all isHexAddressStr = true := by
  simp only [List.all, isHexAddressStr_eaLower, isHexAddressStr_eaUpper, isHexAddressStr_eaMixed, isHexAddressStr_eaBare,
    Bool.and_self]
theorem hexAddr?_eaTokenUpper : hexAddr? eaTokenUpper = some ea :=
  (hexAddr?_ofList _).trans (congrArg (Option.map String.ofList) (show hexAddrChars _ = some _ by decide +kernel))

example : hexAddr? eaTokenUpper = some ea := hexAddr?_eaTokenUpper

def metasAB : Map Denom Meta := [("acoin", ccoin), ("bcoin", ccoin)]

/-- a two-denomination pair written with a lower-case address: the file is `GenesisOk`, so `initGenesis_inv` applies;
concretely the pair is stored under hash(string as written), found by the 20-byte address and by both denominations,
a proposal that spells the address differently toggles it, and an address update re-spells it. -/
def lowerGenesis : List Pair := [⟨eaLower, ["acoin", "bcoin"], true, 1⟩]

example : validateGenesis lowerGenesis = some true := by
  simp only [validateGenesis, lowerGenesis, validateGenesisAux, isHexAddressStr_eaLower]; decide +kernel
example : GenesisOk ({ metas := metasAB } : R) lowerGenesis := by unfold GenesisOk; decide +kernel

def lowerImported : R := ((initGenesis Hp ({ metas := metasAB } : R) lowerGenesis).getD {})

/-- what importing `lowerGenesis` writes when the stored pair is spelt `s` (`InitGenesis` itself stores `eaLower`):
the index entries carry the id of the spelling as written -/
def importedAs (s : String) : R :=
  { pairs := [((s, "acoin"), ⟨s, ["acoin", "bcoin"], true, 1⟩)], byErc := [(ea, (eaLower, "acoin"))],
    byDen := [("bcoin", (eaLower, "acoin")), ("acoin", (eaLower, "acoin"))], metas := metasAB }

theorem lowerImported_eq : lowerImported = importedAs eaLower := by
  simp only [lowerImported, lowerGenesis, initGenesis, getID, Pair.addr, addrOf_eaLower]; decide +kernel

example : lowerImported.pairs.find (eaLower, "acoin") = some ⟨eaLower, ["acoin", "bcoin"], true, 1⟩ ∧
    lowerImported.byErc.find ea = some (eaLower, "acoin") ∧ lowerImported.byDen.find "bcoin" = some (eaLower, "acoin") := by
  rw [lowerImported_eq]; decide +kernel

example : (step Hp lowerImported (.toggle true eaTokenUpper)).2 = Status.ok ∧
    (step Hp lowerImported (.toggle true eaTokenUpper)).1.pairs.find (eaLower, "acoin")
      = some ⟨eaLower, ["acoin", "bcoin"], false, 1⟩ := by
  rw [lowerImported_eq, step, stepWith, toggleRelay, tokenPairID, hexAddr?_eaTokenUpper]; decide +kernel

/-- The class of change this part of the check is designed to catch: an import that stores the pair under another
spelling than the one the id was computed from ("normalise the address before SetTokenPair"). `canon` = the
re-spelling. The index entries then point to an id under which nothing is stored. -/
def initGenesisRespelled (canon : String → String) (r : R) : List Pair → Option R
  | [] => some r
  | p :: ps =>
    match getID Hp p with
    | none => none
    | some id =>
      let p' : Pair := { p with addrStr := canon p.addrStr }
      match getID Hp p' with
      | none => none
      | some id' =>
        initGenesisRespelled canon
          { r with pairs := r.pairs.ins id' p', byDen := r.byDen.insAll p.denoms id, byErc := r.byErc.ins p.addr id } ps

theorem respelled_import_inconsistent :
    ∃ r, initGenesisRespelled (fun _ => eaMixed) ({ metas := metasAB } : R) lowerGenesis = some r ∧ ¬ Consistent r := by
  refine ⟨importedAs eaMixed, ?_, fun hc => ?_⟩
  · simp only [lowerGenesis, initGenesisRespelled, getID, Pair.addr, addrOf_eaLower]; decide +kernel
  have h := (hc.found (eaMixed, "acoin") ⟨eaMixed, ["acoin", "bcoin"], true, 1⟩ (by decide +kernel)).1
  simp only [Pair.addr, addrOf_eaMixed] at h
  exact absurd h (by decide +kernel)

/-- `GenesisState.Validate` compares address STRINGS: the same contract in two spellings passes, and the import puts the
contract into two pairs (the first is no longer found by its address). The file is not `GenesisOk` (addresses are
compared as 20 bytes there). -/
def twoSpellings : List Pair := [⟨eaLower, ["acoin"], true, 1⟩, ⟨eaUpper, ["bcoin"], true, 1⟩]

theorem validateGenesis_twoSpellings : validateGenesis twoSpellings = some true := by
  simp only [validateGenesis, twoSpellings, validateGenesisAux, isHexAddressStr_eaLower, isHexAddressStr_eaUpper]
  decide +kernel

example : validateGenesis twoSpellings = some true := validateGenesis_twoSpellings
example : validateGenesisStrict twoSpellings = false := by
  simp only [validateGenesisStrict, twoSpellings, validateGenesisStrictAux, Pair.addr, isHexAddressStr_eaLower,
    isHexAddressStr_eaUpper, addrOf_eaLower, addrOf_eaUpper]
  decide +kernel
example : validateGenesisStrict lowerGenesis = true := by
  simp only [validateGenesisStrict, lowerGenesis, validateGenesisStrictAux, Pair.addr, isHexAddressStr_eaLower, addrOf_eaLower]
  decide +kernel

theorem validate_accepts_two_spellings :
    validateGenesis twoSpellings = some true ∧
    ∃ r, initGenesis Hp ({ metas := metasAB } : R) twoSpellings = some r ∧ ¬ Consistent r := by
  refine ⟨validateGenesis_twoSpellings,
    { pairs := [((eaUpper, "bcoin"), ⟨eaUpper, ["bcoin"], true, 1⟩), ((eaLower, "acoin"), ⟨eaLower, ["acoin"], true, 1⟩)],
      byErc := [(ea, (eaUpper, "bcoin"))], byDen := [("bcoin", (eaUpper, "bcoin")), ("acoin", (eaLower, "acoin"))],
      metas := metasAB }, ?_, fun hc => ?_⟩
  · simp only [twoSpellings, initGenesis, getID, Pair.addr, addrOf_eaLower, addrOf_eaUpper]; decide +kernel
  have h := (hc.found (eaLower, "acoin") ⟨eaLower, ["acoin"], true, 1⟩ (by decide +kernel)).1
  simp only [Pair.addr, addrOf_eaLower] at h
  exact absurd h (by decide +kernel)

/-- `GenesisState.Validate` accepts a file in which a denomination occurs twice (not in first position); importing it
gives an inconsistent registry: pair (e1) lists `shared`, the index sends `shared` to pair (e2). (Not a governance
action; genesis files are C13's subject. Recorded here because `consistent_run` needs a consistent start.) -/
def badGenesis : List Pair := [⟨s1, ["acoin", "shared"], true, 1⟩, ⟨s2, ["bcoin", "shared"], true, 1⟩]

theorem isHexAddressStr_s1 : isHexAddressStr s1 = true := isHexAddressStr_ofList (by decide +kernel)
theorem isHexAddressStr_s2 : isHexAddressStr s2 = true := isHexAddressStr_ofList (by decide +kernel)

example : validateGenesis badGenesis = some true := by
  simp only [validateGenesis, badGenesis, validateGenesisAux, isHexAddressStr_s1, isHexAddressStr_s2]; decide +kernel
example : validateGenesisStrict badGenesis = false := by
  simp only [validateGenesisStrict, badGenesis, validateGenesisStrictAux, Pair.addr, isHexAddressStr_s1, isHexAddressStr_s2,
    addrOf_s1, addrOf_s2]
  decide +kernel

example : ∃ r, initGenesis Hp ({} : R) badGenesis = some r ∧
    r.pairs.find (s1, "acoin") = some ⟨s1, ["acoin", "shared"], true, 1⟩ ∧ r.byDen.find "shared" = some (s2, "bcoin") :=
  ⟨_, rfl, by decide +kernel, by decide +kernel⟩

/-- a disjoint genesis with metadata is imported into a consistent registry (non-vacuity of `initGenesis_inv`) -/
example : GenesisOk ({ metas := metasAB } : R) [⟨s1, ["acoin"], true, 1⟩, ⟨eaBare, ["bcoin"], false, 2⟩] := by
  simp only [GenesisOk, List.forall_mem_cons, List.pairwise_cons, Pair.addr, addrOf_s1, addrOf_eaBare]
  decide +kernel

end Witness

end TM.Registry
