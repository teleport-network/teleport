import TeleportModel.Model.Eth
/-
C10 — Ethereum client: rule-abiding headers only; forks never wedge it.
Theorems about `TM.Eth` (Model/Eth.lean); `Variant.fixed` is `RestrictChain` since fix 1d199fb (fixes/C10-restrictchain.diff),
`Variant.orig` the text before it, for which the negations are proved on concrete witnesses.
-/
namespace TM.Eth

section AL
variable {κ : Type} {α : Type} [DecidableEq κ]

theorem aget_adel (m : List (κ × α)) (k k' : κ) : aget (adel m k) k' = if k' = k then none else aget m k' := by
  induction m with
  | nil => simp [adel, aget]
  | cons p m ih =>
    obtain ⟨k1, v⟩ := p
    unfold adel at ih ⊢
    by_cases h1 : k1 = k <;> by_cases h2 : k' = k <;> simp_all [aget, @eq_comm _ k k']

theorem aget_adel_self (m : List (κ × α)) (k : κ) : aget (adel m k) k = none := by
  rw [aget_adel, if_pos rfl]

theorem aget_adel_ne (m : List (κ × α)) {k k' : κ} (hne : k' ≠ k) : aget (adel m k) k' = aget m k' := by
  rw [aget_adel, if_neg hne]

theorem aget_aset (m : List (κ × α)) (k k' : κ) (v : α) :
    aget (aset m k v) k' = if k' = k then some v else aget m k' := by
  by_cases h : k' = k
  · simp [aset, aget, h]
  · have h' : ¬ k = k' := fun e => h e.symm
    simp [aset, aget, h, h', aget_adel]

theorem aget_aset_self (m : List (κ × α)) (k : κ) (v : α) : aget (aset m k v) k = some v := by
  rw [aget_aset, if_pos rfl]

theorem aget_aset_ne (m : List (κ × α)) {k k' : κ} (v : α) (hne : k' ≠ k) : aget (aset m k v) k' = aget m k' := by
  rw [aget_aset, if_neg hne]

theorem adel_mono (m : List (κ × α)) (k0 k : κ) (v : α) (h : aget (adel m k0) k = some v) : aget m k = some v := by
  by_cases e : k = k0
  · subst e; rw [aget_adel_self] at h; cases h
  · rw [aget_adel_ne _ e] at h; exact h
end AL

def consOf (h : Header) : Cons := { time := h.time, root := h.root }

/-- assumptions about the set `U` of headers that exist on the counterparty chain (all forks): the header hash is
    collision free on it and block numbers are below 2^63 -/
structure UOk (env : Env) (U : Header → Prop) : Prop where
  inj : ∀ a b, U a → U b → env.hash a = env.hash b → a = b
  wf : ∀ a, U a → a.number < two63

/-- the store invariant (no pruning): `g` is the header the client was created with -/
structure Inv (env : Env) (U : Header → Prop) (g : Header) (s : State) : Prop where
  key : ∀ k h, aget s.hdr k = some h → k = hkey env h ∧ U h
  closed : ∀ k h, aget s.hdr k = some h → h = g ∨ (g.number < h.number ∧ ∃ p, parentOf s h = some p)
  head : aget s.hdr (hkey env s.head) = some s.head
  roots : ∀ n a, walkCur s n s.head = some a → aget s.cons a.number = some (consOf a)

/-- the part of the invariant that survives pruning: key consistency, head stored, roots along the head's stored ancestry -/
structure Core (env : Env) (U : Header → Prop) (s : State) : Prop where
  key : ∀ k h, aget s.hdr k = some h → k = hkey env h ∧ U h
  head : aget s.hdr (hkey env s.head) = some s.head
  roots : ∀ n a, walkCur s n s.head = some a → aget s.cons a.number = some (consOf a)

theorem Inv.core {env : Env} {U : Header → Prop} {g : Header} {s : State} (hi : Inv env U g s) : Core env U s :=
  ⟨hi.key, hi.head, hi.roots⟩

def Stored (env : Env) (s : State) (h : Header) : Prop := aget s.hdr (hkey env h) = some h

instance (env : Env) (s : State) (h : Header) : Decidable (Stored env s h) := by unfold Stored; infer_instance

def KeyOk (env : Env) (U : Header → Prop) (s : State) : Prop :=
  ∀ k h, aget s.hdr k = some h → k = hkey env h ∧ U h

/-- the consensus states `cons'` are those of the proper ancestors of `c` in the index of `s`, at their heights -/
def AncRoots (s : State) (c : Header) (cons' : List (Nat × Cons)) : Prop :=
  ∀ n a, 1 ≤ n → walkCur s n c = some a → aget cons' a.number = some (consOf a)

section
variable {env : Env} {U : Header → Prop} {g : Header}

theorem pred64_succ {a b : Nat} (ha : a < two63) (h : b + 1 = a) : pred64 a = b := by
  subst h
  have hb : b < two64 := Nat.lt_trans (Nat.lt_of_succ_lt ha) (by decide)
  unfold pred64
  rw [Nat.add_assoc, Nat.add_sub_cancel' (by decide : 1 ≤ two64), Nat.add_mod_right, Nat.mod_eq_of_lt hb]

theorem pred64_eq {a b : Nat} (ha : a < two63) (hb : b < two63) (h : pred64 a = b) : b + 1 = a := by
  cases a with
  | zero => exact absurd (h.symm ▸ hb) (by decide)  -- `0 - 1` wraps to 2^64 - 1
  | succ a => rw [← h, pred64_succ ha rfl]

theorem stored_of_get {s : State} (hk : KeyOk env U s) {k : Key} {h : Header}
    (hg : aget s.hdr k = some h) : Stored env s h :=
  show aget s.hdr (hkey env h) = some h from (hk k h hg).1 ▸ hg

theorem parent_facts (hU : UOk env U) {s : State} (hk : KeyOk env U s)
    {h p : Header} (hh : U h) (hp : parentOf s h = some p) :
    p.number + 1 = h.number ∧ env.hash p = h.parentHash ∧ Stored env s p := by
  unfold parentOf at hp
  obtain ⟨e, up⟩ := hk _ _ hp
  obtain ⟨e1, e2⟩ := Prod.mk.inj e
  exact ⟨pred64_eq (hU.wf _ hh) (hU.wf _ up) e2, e1.symm, stored_of_get hk hp⟩

theorem parentOf_child (hU : UOk env U) {s : State} {p c : Header} (uc : U c) (sp : Stored env s p)
    (eh : env.hash p = c.parentHash) (en : p.number + 1 = c.number) : parentOf s c = some p := by
  unfold parentOf; rw [pred64_succ (hU.wf _ uc) en, ← eh]; exact sp

theorem stored_U {s : State} (hi : Core env U s) {h : Header} (hs : Stored env s h) : U h := (hi.key _ _ hs).2

/-! ### `walkCur s n h` = the n-th ancestor of `h` -/

theorem up_succ (s : State) (n : Nat) (h : Header) :
    walkCur s (n + 1) h = (parentOf s h).bind (walkCur s n) := by
  cases hp : parentOf s h <;> simp [walkCur, hp]

theorem up_succ_some {s : State} {n : Nat} {h x : Header} :
    walkCur s (n + 1) h = some x ↔ ∃ p, parentOf s h = some p ∧ walkCur s n p = some x := by
  rw [up_succ]; exact Option.bind_eq_some_iff

theorem up_add (s : State) (a b : Nat) (h : Header) :
    walkCur s (a + b) h = (walkCur s a h).bind (walkCur s b) := by
  induction a generalizing h with
  | zero => simp [walkCur]
  | succ a ih =>
    rw [Nat.add_right_comm a 1 b, up_succ, up_succ]
    cases parentOf s h with
    | none => rfl
    | some p => exact ih p

theorem up_add_some {s : State} {a : Nat} {h x : Header} (hx : walkCur s a h = some x) (b : Nat) :
    walkCur s (a + b) h = walkCur s b x := by
  rw [up_add, hx]; rfl

theorem up_prefix (s : State) {m : Nat} {h y : Header} (hy : walkCur s m h = some y) (k : Nat) (hk : k ≤ m) :
    ∃ z, walkCur s k h = some z ∧ walkCur s (m - k) z = some y := by
  rw [← Nat.add_sub_cancel' hk, up_add] at hy
  exact Option.bind_eq_some_iff.mp hy

theorem up_facts (hU : UOk env U) {s : State} (hk : KeyOk env U s) (n : Nat) {h x : Header} (hs : Stored env s h)
    (hx : walkCur s n h = some x) : x.number + n = h.number ∧ Stored env s x := by
  induction n generalizing h with
  | zero => obtain rfl : h = x := Option.some.inj hx; exact ⟨rfl, hs⟩
  | succ n ih =>
    obtain ⟨p, hp, hx⟩ := up_succ_some.mp hx
    obtain ⟨e1, _, sp⟩ := parent_facts hU hk (hk _ _ hs).2 hp
    obtain ⟨e2, sx⟩ := ih sp hx
    exact ⟨by rw [← e1, ← e2, Nat.add_assoc], sx⟩

theorem up_number (hU : UOk env U) {s : State} (hk : KeyOk env U s) {h z : Header} {k : Nat}
    (hs : Stored env s h) (hle : k ≤ h.number) (hz : walkCur s (h.number - k) h = some z) : z.number = k :=
  Nat.add_right_cancel ((up_facts hU hk _ hs hz).1.trans (Nat.add_sub_cancel' hle).symm)

theorem up_at (hU : UOk env U) {s : State} (hk : KeyOk env U s) {m : Nat} {h y : Header}
    (hs : Stored env s h) (hy : walkCur s m h = some y) {k : Nat} (h1 : y.number ≤ k) (h2 : k ≤ h.number) :
    ∃ z, walkCur s (h.number - k) h = some z ∧ walkCur s (k - y.number) z = some y := by
  have f := (up_facts hU hk m hs hy).1
  -- `d` steps to the ancestor at height `k`, `e` more to `y`
  obtain ⟨d, hd⟩ := Nat.exists_eq_add_of_le h2
  obtain ⟨e, he⟩ := Nat.exists_eq_add_of_le h1
  have hm : m = d + e := by omega
  rw [hd, Nat.add_sub_cancel_left, he, Nat.add_sub_cancel_left]
  obtain ⟨z, hz, hy'⟩ := up_prefix s hy d (hm ▸ Nat.le_add_right d e)
  rw [hm, Nat.add_sub_cancel_left] at hy'
  exact ⟨z, hz, hy'⟩

theorem up_mono {s s' : State} (hm : ∀ k h, aget s.hdr k = some h → aget s'.hdr k = some h) (n : Nat) {x a : Header}
    (h : walkCur s n x = some a) : walkCur s' n x = some a := by
  induction n generalizing x with
  | zero => exact h
  | succ n ih =>
    obtain ⟨q, hq, h⟩ := up_succ_some.mp h
    exact up_succ_some.mpr ⟨q, hm _ _ hq, ih h⟩

theorem up_le_of_bottom {s : State} {N n : Nat} {h b a : Header} (hb : walkCur s N h = some b) (hbn : parentOf s b = none)
    (ha : walkCur s n h = some a) : n ≤ N := by
  refine Nat.le_of_not_lt (fun hlt => ?_)
  obtain ⟨i, rfl⟩ := Nat.exists_eq_add_of_lt hlt
  rw [Nat.add_assoc, up_add_some hb, up_succ, hbn] at ha
  cases ha

theorem up_of_mono_bottom {s s' : State} (hm : ∀ k h, aget s.hdr k = some h → aget s'.hdr k = some h) {N n : Nat} {h b a : Header}
    (hb : walkCur s N h = some b) (hbn : parentOf s' b = none) (ha : walkCur s' n h = some a) : walkCur s n h = some a := by
  obtain ⟨z, hz, _⟩ := up_prefix s hb n (up_le_of_bottom (up_mono hm N hb) hbn ha)
  rw [up_mono hm n hz] at ha
  rw [hz, ha]

theorem no_parent_low (hU : UOk env U) {s : State} {g0 : Nat} (hk : KeyOk env U s)
    (hlow : ∀ k h, aget s.hdr k = some h → g0 ≤ h.number) {h : Header} (uh : U h) (e : h.number = g0) : parentOf s h = none := by
  cases hp : parentOf s h with
  | none => rfl
  | some q =>
    obtain ⟨e1, _, sq⟩ := parent_facts hU hk uh hp
    have := hlow _ _ sq
    omega

theorem walkCur_hdr {s s' : State} (h : s'.hdr = s.hdr) (n : Nat) (x : Header) : walkCur s' n x = walkCur s n x :=
  Option.ext fun _ => ⟨up_mono (fun _ _ hg => h ▸ hg) n, up_mono (fun _ _ hg => h.symm ▸ hg) n⟩

theorem up_congr (s : State) {a b : Header} (h1 : a.parentHash = b.parentHash) (h2 : a.number = b.number) (i : Nat) :
    walkCur s (i + 1) a = walkCur s (i + 1) b := by
  rw [up_succ, up_succ, parentOf, parentOf, h1, h2]

/-- the headers visited by a walk of `n` steps from `h`, without the one reached: those whose hashes the loops of
    `RestrictChain` collect -/
def pathList (s : State) : Nat → Header → List Header
  | 0, _ => []
  | n + 1, h => h :: (match parentOf s h with | some p => pathList s n p | none => [])

theorem pathList_succ {s : State} {h p : Header} (hp : parentOf s h = some p) (n : Nat) :
    pathList s (n + 1) h = h :: pathList s n p := by
  simp only [pathList, hp]

theorem pathList_add (s : State) (a b : Nat) (h x : Header) (hx : walkCur s a h = some x) :
    pathList s (a + b) h = pathList s a h ++ pathList s b x := by
  induction a generalizing h with
  | zero => obtain rfl : h = x := Option.some.inj hx; simp [pathList]
  | succ a ih =>
    obtain ⟨p, hp, hx⟩ := up_succ_some.mp hx
    rw [Nat.add_right_comm a 1 b, pathList_succ hp, pathList_succ hp, ih p hx]; rfl

theorem pathList_snoc (s : State) (n : Nat) (h x : Header) (hx : walkCur s n h = some x) :
    pathList s (n + 1) h = pathList s n h ++ [x] := by
  rw [pathList_add s n 1 h x hx]
  cases hp : parentOf s x <;> simp [pathList, hp]

theorem mem_pathList_of_up (s : State) (n i : Nat) (h y : Header) (hy : walkCur s i h = some y) (hi : i < n) :
    y ∈ pathList s n h := by
  induction n generalizing i h with
  | zero => exact absurd hi (Nat.not_lt_zero i)
  | succ n ih =>
    cases i with
    | zero => obtain rfl : h = y := Option.some.inj hy; simp [pathList]
    | succ i =>
      obtain ⟨p, hp, hy⟩ := up_succ_some.mp hy
      rw [pathList_succ hp]
      exact List.mem_cons_of_mem _ (ih i p hy (Nat.lt_of_succ_lt_succ hi))

theorem walkNew_eq (s : State) (n : Nat) (h : Header) (acc : List Hash) :
    walkNew env s n h acc = (walkCur s n h).map fun x => (x, acc ++ (pathList s n h).map env.hash) := by
  fun_induction walkNew env s n h acc with
  | case1 => simp [walkCur, pathList]
  | case2 n h acc hp => simp [walkCur, hp]
  | case3 n h acc p hp ih => simp [walkCur, pathList, hp, ih]

/-- what a successful second loop has done: `j` steps up from both headers, to two headers with the same parent hash -/
theorem walkBoth_sound {env : Env} {s : State} {fuel : Nat} {cur new : Header} {acc : List Hash} {st : Nat}
    {cur2 new2 : Header} {acc2 : List Hash} {steps : Nat}
    (hw : walkBoth env s fuel cur new acc st = .ok (cur2, new2, acc2, steps)) :
    ∃ j, steps = st + j ∧ acc2 = acc ++ (pathList s j new).map env.hash ∧ walkCur s j cur = some cur2 ∧
      walkCur s j new = some new2 ∧ cur2.parentHash = new2.parentHash := by
  fun_induction walkBoth env s fuel cur new acc st with
  | case1 => cases hw
  | case2 f cur new acc st hph => cases hw; exact ⟨0, rfl, by simp [pathList], rfl, rfl, hph⟩
  | case3 => cases hw
  | case4 => cases hw
  | case5 f cur new acc st hph pn hpn pc hpc ih =>
    obtain ⟨j, h1, h2, h3, h4, h5⟩ := ih hw
    refine ⟨j + 1, by rw [h1, Nat.add_assoc, Nat.add_comm 1 j], ?_, up_succ_some.mpr ⟨pc, hpc, h3⟩, up_succ_some.mpr ⟨pn, hpn, h4⟩, h5⟩
    rw [h2, pathList_succ hpn]; simp

theorem walkBoth_total {env : Env} {s : State} {a f : Nat} {cur new : Header} {acc : List Hash} {st : Nat} {x y : Header}
    (hf : a ≤ f) (hy : walkCur s a cur = some y) (hx : walkCur s a new = some x) (he : y.parentHash = x.parentHash) :
    ∃ r, walkBoth env s (f + 1) cur new acc st = .ok r := by
  induction a generalizing f cur new acc st with
  | zero =>
    obtain rfl : cur = y := Option.some.inj hy
    obtain rfl : new = x := Option.some.inj hx
    exact ⟨(cur, new, acc, st), by simp only [walkBoth, he, ↓reduceIte]⟩
  | succ a ih =>
    by_cases hph : cur.parentHash = new.parentHash
    · exact ⟨(cur, new, acc, st), by simp only [walkBoth, hph, ↓reduceIte]⟩
    · obtain ⟨pc, hpc, hy⟩ := up_succ_some.mp hy
      obtain ⟨pn, hpn, hx⟩ := up_succ_some.mp hx
      cases f with
      | zero => exact absurd hf (Nat.not_succ_le_zero a)
      | succ f =>
        obtain ⟨r, hr⟩ := ih (acc := acc ++ [env.hash new]) (st := st + 1) (Nat.le_of_succ_le_succ hf) hy hx
        exact ⟨r, by rw [walkBoth, if_neg hph]; simp only [hpn, hpc]; exact hr⟩

/-- headers at consecutive heights `t, t+1, …`, all in the index -/
def Asc (env : Env) (s : State) : List Header → Nat → Prop
  | [], _ => True
  | y :: ys, t => y.number = t ∧ Stored env s y ∧ Asc env s ys (t + 1)

theorem asc_path (hU : UOk env U) {s : State} (hi : Core env U s) (n : Nat) (h x : Header) (hs : Stored env s h)
    (hx : walkCur s n h = some x) : Asc env s (pathList s n h).reverse (x.number + 1) := by
  induction n generalizing x with
  | zero => trivial
  | succ n ih =>
    obtain ⟨x', hx', hx⟩ := up_prefix s hx n (Nat.le_succ n)
    rw [Nat.add_sub_cancel_left] at hx
    obtain ⟨p, hp, hx⟩ := up_succ_some.mp hx
    obtain rfl : p = x := Option.some.inj hx
    obtain ⟨_, sx'⟩ := up_facts hU hi.key n hs hx'
    obtain ⟨e1, _, _⟩ := parent_facts hU hi.key (stored_U hi sx') hp
    rw [pathList_snoc s n h x' hx', List.reverse_append]
    exact ⟨e1.symm, sx', e1 ▸ ih x' hx'⟩

theorem asc_ge (s : State) : ∀ (ys : List Header) (t : Nat), Asc env s ys t → ∀ y ∈ ys, t ≤ y.number ∧ y.number < t + ys.length := by
  intro ys
  induction ys with
  | nil => intro t _ y hy; cases hy
  | cons z zs ih =>
    intro t ha y hy
    obtain ⟨e, _, hr⟩ := ha
    rw [List.length_cons]
    rcases List.mem_cons.mp hy with rfl | hm
    · exact ⟨Nat.le_of_eq e.symm, e ▸ Nat.lt_add_of_pos_right (Nat.succ_pos _)⟩
    · obtain ⟨h1, h2⟩ := ih (t + 1) hr y hm
      exact ⟨Nat.le_of_succ_le h1, Nat.add_right_comm t 1 _ ▸ h2⟩

theorem asc_cons_irrel {s : State} (cons' : List (Nat × Cons)) (ys : List Header) (t : Nat) (h : Asc env s ys t) :
    Asc env { s with cons := cons' } ys t := by
  induction ys generalizing t with
  | nil => trivial
  | cons y ys ih => exact ⟨h.1, h.2.1, ih _ h.2.2⟩

theorem repoint_spec (ys : List Header) (s : State) (t : Nat) (ha : Asc env s ys t) :
    ∃ cons', repoint s (ys.map env.hash) t = some { s with cons := cons' } ∧
      (∀ y ∈ ys, aget cons' y.number = some (consOf y)) ∧
      (∀ k, k < t → aget cons' k = aget s.cons k) := by
  induction ys generalizing s t with
  | nil => exact ⟨s.cons, rfl, by simp, by simp⟩
  | cons y ys ih =>
    obtain ⟨e, sy, hr⟩ := ha
    have hl : aget s.hdr (env.hash y, t) = some y := e ▸ sy
    obtain ⟨c', h1, h2, h3⟩ := ih _ (t + 1) (asc_cons_irrel (aset s.cons t (consOf y)) _ _ hr)
    refine ⟨c', ?_, ?_, ?_⟩
    · simp only [List.map_cons, repoint, hl]
      exact h1
    · intro z hz
      rcases List.mem_cons.mp hz with rfl | hm
      · rw [h3 z.number (Nat.lt_succ_of_le (Nat.le_of_eq e)), e]
        exact aget_aset_self _ _ _
      · exact h2 z hm
    · intro k hk
      rw [h3 k (Nat.lt_succ_of_lt hk)]
      exact aget_aset_ne _ _ (Nat.ne_of_lt hk)

/-- the repaired last loop: everything on the new branch above the common parent is re-pointed -/
theorem rcFinish_spec (hU : UOk env U) {s : State} (hi : Core env U s) {c cur2 new2 : Header} (sc : Stored env s c)
    {D E F : Nat} (hn2 : walkCur s D c = some new2) (hc2 : walkCur s E s.head = some cur2)
    (hpe : cur2.parentHash = new2.parentHash) (e1 : cur2.number = F) (e2 : new2.number = F) :
    ∃ cons', rcFinish .fixed env s cur2 new2 ((pathList s D c).map env.hash) F = .ok { s with cons := cons' } ∧
      AncRoots s c cons' ∧ (∀ k, k < F → aget cons' k = aget s.cons k) := by
  obtain ⟨_, sn2⟩ := up_facts hU hi.key D sc hn2
  obtain ⟨_, sc2⟩ := up_facts hU hi.key E hi.head hc2
  -- in both cases the hashes re-pointed are those of the first `D'` headers of the walk from `c`, written at the heights
  -- from `t` on, and the rest of that walk runs along the head's ancestry below `t`, where nothing is written
  have key : ∃ D' t, F ≤ t ∧
      (∀ s', repoint s ((pathList s D' c).map env.hash).reverse t = some s' →
        rcFinish .fixed env s cur2 new2 ((pathList s D c).map env.hash) F = .ok s') ∧
      Asc env s (pathList s D' c).reverse t ∧
      ∀ n a, D' ≤ n → walkCur s n c = some a → a.number < t ∧ ∃ m, walkCur s m s.head = some a := by
    by_cases hh : env.hash cur2 = env.hash new2
    · -- the new branch passes through `cur2` itself
      have heq : cur2 = new2 := hU.inj _ _ (stored_U hi sc2) (stored_U hi sn2) hh
      refine ⟨D, F + 1, Nat.le_succ F, ?_, e2 ▸ asc_path hU hi D c new2 sc hn2, ?_⟩
      · intro s' hr
        simp only [rcFinish, hh, ne_eq, not_true_eq_false, ↓reduceIte, hr]
      · intro n a hn ha
        obtain ⟨i, rfl⟩ := Nat.exists_eq_add_of_le hn
        rw [up_add_some hn2, ← heq] at ha
        have hF : a.number + i = F := (up_facts hU hi.key i sc2 ha).1.trans e1
        exact ⟨Nat.lt_succ_of_le (Nat.le.intro hF), E + i, (up_add_some hc2 i).trans ha⟩
    · -- `new2` is a sibling of `cur2`: it is re-pointed as well
      have hsn := pathList_snoc s D c new2 hn2
      refine ⟨D + 1, F, Nat.le_refl F, ?_, ?_, ?_⟩
      · intro s' hr
        rw [hsn, List.map_append, List.map_cons, List.map_nil] at hr
        simp only [rcFinish, hh, ne_eq, not_false_eq_true, ↓reduceIte, hr]
      · rw [hsn, List.reverse_append]
        exact ⟨e2, sn2, e2 ▸ asc_path hU hi D c new2 sc hn2⟩
      · intro n a hn ha
        obtain ⟨i, rfl⟩ := Nat.exists_eq_add_of_le hn
        rw [Nat.add_assoc, Nat.add_comm 1 i, up_add_some hn2, ← up_congr s hpe (e1.trans e2.symm) i] at ha
        have hF : a.number + (i + 1) = F := (up_facts hU hi.key (i + 1) sc2 ha).1.trans e1
        exact ⟨Nat.lt_of_lt_of_eq (Nat.lt_add_of_pos_right (Nat.succ_pos i)) hF, E + (i + 1), (up_add_some hc2 _).trans ha⟩
  obtain ⟨D', t, hFt, hrun, hasc, hrest⟩ := key
  obtain ⟨c', h1, h2, h3⟩ := repoint_spec (env := env) _ s t hasc
  refine ⟨c', hrun _ (by rw [← List.map_reverse, h1]), ?_, fun k hk => h3 k (Nat.lt_of_lt_of_le hk hFt)⟩
  intro n a hn ha
  by_cases hlt : n < D'
  · exact h2 a (List.mem_reverse.mpr (mem_pathList_of_up s D' n c a ha hlt))
  · obtain ⟨hat, m, hm⟩ := hrest n a (Nat.le_of_not_lt hlt) ha
    rw [h3 a.number hat]
    exact hi.roots _ _ hm

/-- second and last loop, started from the two headers `cur1`, `new1` at height `si`: if the second loop succeeds so does the
    last, the new branch is re-pointed and nothing is written below the height where the loops met -/
theorem rcTail_core (hU : UOk env U) {s : State} (hi : Core env U s) {c cur1 new1 : Header} (sc : Stored env s c)
    {d1 d2 si : Nat} (hc1 : walkCur s d1 s.head = some cur1) (hn1 : walkCur s d2 c = some new1)
    (e1 : cur1.number = si) (e2 : new1.number = si) {cur2 new2 : Header} {acc2 : List Hash} {steps : Nat}
    (hw : walkBoth env s (si + 1) cur1 new1 ((pathList s d2 c).map env.hash) 0 = .ok (cur2, new2, acc2, steps)) :
    ∃ cons' D E, rcTail .fixed env s cur1 new1 ((pathList s d2 c).map env.hash) si = .ok { s with cons := cons' } ∧
      walkCur s D c = some new2 ∧ walkCur s E s.head = some cur2 ∧ cur2.parentHash = new2.parentHash ∧
      cur2.number = new2.number ∧ AncRoots s c cons' ∧
      (∀ k v, aget cons' k = some v → (aget s.cons k).isSome ∨ new2.number ≤ k) := by
  obtain ⟨j, hst, hacc, hc2, hn2, hpe⟩ := walkBoth_sound hw
  rw [Nat.zero_add] at hst
  subst hst
  obtain ⟨_, scur1⟩ := up_facts hU hi.key d1 hi.head hc1
  obtain ⟨_, snew1⟩ := up_facts hU hi.key d2 sc hn1
  have hD : walkCur s (d2 + steps) c = some new2 := (up_add_some hn1 _).trans hn2
  have hE : walkCur s (d1 + steps) s.head = some cur2 := (up_add_some hc1 _).trans hc2
  have f1 : cur2.number = si - steps := Nat.eq_sub_of_add_eq ((up_facts hU hi.key steps scur1 hc2).1.trans e1)
  have f2 : new2.number = si - steps := Nat.eq_sub_of_add_eq ((up_facts hU hi.key steps snew1 hn2).1.trans e2)
  obtain ⟨c', h1, h2, h3⟩ := rcFinish_spec hU hi sc hD hE hpe f1 f2
  have hdom : ∀ k v, aget c' k = some v → (aget s.cons k).isSome ∨ new2.number ≤ k := fun k v hk =>
    (Nat.lt_or_ge k new2.number).imp (fun hlt => by rw [← h3 k (f2 ▸ hlt), hk]; rfl) id
  refine ⟨c', d2 + steps, d1 + steps, ?_, hD, hE, hpe, f1.trans f2.symm, h2, hdom⟩
  simp only [rcTail, hw]
  rw [hacc, ← List.map_append, ← pathList_add s d2 steps c new1 hn1]
  exact h1

/-- `RestrictChain` up to its second loop: both headers are brought down to the lower of the two heights -/
theorem restrictChain_ok_iff {s : State} {c : Header} {s3 : State} :
    restrictChain .fixed env s c = .ok s3 ↔
      ∃ cur1 new1, walkCur s (s.head.number - min s.head.number c.number) s.head = some cur1 ∧
        walkCur s (c.number - min s.head.number c.number) c = some new1 ∧
        rcTail .fixed env s cur1 new1 ((pathList s (c.number - min s.head.number c.number) c).map env.hash)
          (min s.head.number c.number) = .ok s3 := by
  unfold restrictChain
  by_cases hgt : s.head.number > c.number
  · rw [Nat.min_eq_right (Nat.le_of_lt hgt), Nat.sub_self]
    cases hc1 : walkCur s (s.head.number - c.number) s.head <;>
      simp [hgt, hc1, walkNew_eq, walkCur, pathList]
  · rw [Nat.min_eq_left (Nat.le_of_not_lt hgt), Nat.sub_self]
    cases hn1 : walkCur s (c.number - s.head.number) c <;>
      simp [hgt, hn1, walkNew_eq, walkCur]

/-- what an accepted `RestrictChain` has done -/
theorem restrictChain_sound (hU : UOk env U) {s : State} (hi : Core env U s) {c : Header} (sc : Stored env s c) {s3 : State}
    (h : restrictChain .fixed env s c = .ok s3) :
    ∃ cons' D E new2 cur2, s3 = { s with cons := cons' } ∧
      walkCur s D c = some new2 ∧ walkCur s E s.head = some cur2 ∧ cur2.parentHash = new2.parentHash ∧
      cur2.number = new2.number ∧
      (∀ n a, 1 ≤ n → walkCur s n c = some a → aget cons' a.number = some (consOf a)) ∧
      (∀ k v, aget cons' k = some v → (aget s.cons k).isSome ∨ new2.number ≤ k) := by
  obtain ⟨cur1, new1, hc1, hn1, ht⟩ := restrictChain_ok_iff.mp h
  have e1 := up_number hU hi.key hi.head (Nat.min_le_left _ _) hc1
  have e2 := up_number hU hi.key sc (Nat.min_le_right _ _) hn1
  have ht' := ht
  unfold rcTail at ht'
  split at ht'
  · cases ht'
  · cases ht'
  · rename_i cur2 new2 acc2 steps hw
    obtain ⟨c', D, E, h1, hrest⟩ := rcTail_core hU hi sc hc1 hn1 e1 e2 hw
    exact ⟨c', D, E, new2, cur2, Outcome.ok.inj (ht.symm.trans h1), hrest⟩

/-- the new header's stored ancestry meets the head's stored ancestry: two headers of the same height with the same
    parent hash (possibly the same header).  In tree terms: the branch forks at or above the prune line. -/
def LiveC (s : State) (c : Header) : Prop :=
  ∃ n m x y, walkCur s n c = some x ∧ walkCur s m s.head = some y ∧ x.number = y.number ∧ y.parentHash = x.parentHash

/-- `RestrictChain` succeeds whenever the new branch meets the head's stored ancestry -/
theorem restrictChain_total (hU : UOk env U) {s : State} (hi : Core env U s) {c : Header} (sc : Stored env s c)
    (hl : LiveC s c) : ∃ s3, restrictChain .fixed env s c = .ok s3 := by
  obtain ⟨n, m, x, y, hx, hy, hnum, hpe⟩ := hl
  have fx := (up_facts hU hi.key n sc hx).1
  have fy := (up_facts hU hi.key m hi.head hy).1
  have hle : y.number ≤ min s.head.number c.number := Nat.le_min.mpr ⟨Nat.le.intro fy, hnum ▸ Nat.le.intro fx⟩
  -- the walks to the meeting point pass through the two headers at the lower of the two heights
  obtain ⟨cur1, hc1, hy'⟩ := up_at hU hi.key hi.head hy hle (Nat.min_le_left _ _)
  obtain ⟨new1, hn1, hx'⟩ := up_at hU hi.key sc hx (hnum ▸ hle) (Nat.min_le_right _ _)
  rw [hnum] at hx'
  obtain ⟨⟨cur2, new2, acc2, steps⟩, hw⟩ := walkBoth_total (env := env)
    (acc := (pathList s (c.number - min s.head.number c.number) c).map env.hash)
    (st := 0) (Nat.sub_le (min s.head.number c.number) _) hy' hx' hpe
  obtain ⟨c', _, _, h1, _⟩ := rcTail_core hU hi sc hc1 hn1
    (up_number hU hi.key hi.head (Nat.min_le_left _ _) hc1) (up_number hU hi.key sc (Nat.min_le_right _ _) hn1) hw
  exact ⟨_, restrictChain_ok_iff.mpr ⟨cur1, new1, hc1, hn1, h1⟩⟩

/-! ### without pruning: every stored header's ancestry ends at the creation header `g` -/

theorem stored_ge (hi : Inv env U g s) {h : Header} (hs : Stored env s h) : g.number ≤ h.number := by
  rcases hi.closed _ _ hs with rfl | ⟨l, _⟩
  · exact Nat.le_refl _
  · exact Nat.le_of_lt l

theorem up_bottom (hU : UOk env U) {s : State} (hi : Inv env U g s) {h : Header} (hs : Stored env s h) :
    walkCur s (h.number - g.number) h = some g := by
  obtain ⟨d, hd⟩ := Nat.exists_eq_add_of_le (stored_ge hi hs)
  rw [hd, Nat.add_sub_cancel_left]
  induction d generalizing h with
  | zero =>
    rcases hi.closed _ _ hs with rfl | ⟨l, _⟩
    · rfl
    · exact absurd hd (Nat.ne_of_gt l)
  | succ d ih =>
    rcases hi.closed _ _ hs with rfl | ⟨_, p, hp⟩
    · omega
    · obtain ⟨e1, _, sp⟩ := parent_facts hU hi.key (hi.key _ _ hs).2 hp
      exact up_succ_some.mpr ⟨p, hp, ih sp (Nat.succ.inj (e1.trans hd))⟩

/-- the repaired `RestrictChain` never fails on a store satisfying the invariant, and re-points the new branch:
    both ancestries reach `g`, so they meet -/
theorem restrictChain_spec (hU : UOk env U) {s : State} (hi : Inv env U g s) {c : Header} (sc : Stored env s c) :
    ∃ cons', restrictChain .fixed env s c = .ok { s with cons := cons' } ∧
      ∀ n a, 1 ≤ n → walkCur s n c = some a → aget cons' a.number = some (consOf a) := by
  obtain ⟨s3, h3⟩ := restrictChain_total hU hi.core sc ⟨_, _, g, g, up_bottom hU hi sc, up_bottom hU hi hi.head, rfl, rfl⟩
  obtain ⟨c', _, _, _, _, rfl, _, _, _, _, h2, _⟩ := restrictChain_sound hU hi.core sc h3
  exact ⟨c', h3, h2⟩

theorem store_hdr (s : State) (c : Header) (k : Key) :
    aget (store env s c).hdr k = if k = hkey env c then some c else aget s.hdr k := by
  simp [store, aget_aset]

theorem store_stored (s : State) (c : Header) : Stored env (store env s c) c := by
  unfold Stored; rw [store_hdr, if_pos rfl]

theorem store_mono (hU : UOk env U) {s : State} (hk : KeyOk env U s) {c : Header} (uc : U c) :
    ∀ k h, aget s.hdr k = some h → aget (store env s c).hdr k = some h := by
  intro k h hg
  rw [store_hdr]
  by_cases e : k = hkey env c
  · obtain ⟨e2, uh⟩ := hk _ _ hg
    have : env.hash h = env.hash c := congrArg Prod.fst (e2.symm.trans e)
    rw [if_pos e, hU.inj _ _ uh uc this]
  · rw [if_neg e, hg]

theorem store_forall {Q : Key → Header → Prop} {s : State} {c : Header} (hs : ∀ k h, aget s.hdr k = some h → Q k h)
    (hc : Q (hkey env c) c) : ∀ k h, aget (store env s c).hdr k = some h → Q k h := by
  intro k h hg
  rw [store_hdr] at hg
  split at hg
  · rename_i e; obtain rfl : c = h := Option.some.inj hg; exact e ▸ hc
  · exact hs k h hg

theorem store_key {s : State} (hk : KeyOk env U s) {c : Header} (uc : U c) :
    KeyOk env U (store env s c) :=
  store_forall hk ⟨rfl, uc⟩

theorem store_inv (hU : UOk env U) {s : State} (hi : Inv env U g s) {c p : Header} (uc : U c)
    (sp : Stored env s p) (eh : env.hash p = c.parentHash) (en : p.number + 1 = c.number) :
    Inv env U g (store env s c) ∧ Stored env (store env s c) c ∧ parentOf (store env s c) c = some p := by
  have hm := store_mono hU hi.key uc
  have hpc : parentOf (store env s c) c = some p := parentOf_child hU uc (hm _ _ sp) eh en
  have hgc : g.number < c.number := en ▸ Nat.lt_succ_of_le (stored_ge hi sp)
  have hk2 := store_key hi.key uc
  -- the head's ancestry still ends at `g`, which is still the lowest header of the index
  have hg := up_bottom hU hi hi.head
  have ug : U g := (hi.key _ _ (up_facts hU hi.key _ hi.head hg).2).2
  have hgn : parentOf (store env s c) g = none :=
    no_parent_low hU hk2 (store_forall (fun k h hs => stored_ge hi (stored_of_get hi.key hs)) (Nat.le_of_lt hgc)) ug rfl
  refine ⟨⟨hk2, ?_, hm _ _ hi.head, fun n a ha => hi.roots n a (up_of_mono_bottom hm hg hgn ha)⟩, store_stored s c, hpc⟩
  exact store_forall (fun k h hs => (hi.closed k h hs).imp id (fun ⟨l, q, hq⟩ => ⟨l, q, hm _ _ hq⟩)) (Or.inr ⟨hgc, p, hpc⟩)

theorem extend_roots {s : State} (hi : Core env U s) {c : Header} (hpc : parentOf s c = some s.head) :
    AncRoots s c s.cons := by
  intro n a hn ha
  obtain ⟨i, rfl⟩ := Nat.exists_eq_add_of_le hn
  rw [Nat.add_comm, up_succ, hpc] at ha
  exact hi.roots i a ha

/-- the keeper writes (new head `c`, its consensus state) re-establish `Core` if the consensus states are right along the
    ancestry of `c` -/
theorem head_write_core (hU : UOk env U) {s : State} (hi : Core env U s) {c : Header} (sc : Stored env s c)
    {cons' : List (Nat × Cons)} (h2 : AncRoots s c cons') :
    Core env U { s with head := c, cons := aset cons' c.number (consOf c) } := by
  refine ⟨hi.key, sc, ?_⟩
  intro n a ha
  have ha' : walkCur s n c = some a := (walkCur_hdr (by rfl) n c).symm.trans ha
  cases n with
  | zero => obtain rfl : c = a := Option.some.inj ha'; exact aget_aset_self _ _ _
  | succ n =>
    have := (up_facts hU hi.key _ sc ha').1
    rw [aget_aset_ne _ _ (Nat.ne_of_lt (Nat.lt_of_lt_of_eq (Nat.lt_add_of_pos_right (Nat.succ_pos n)) this))]
    exact h2 _ a (Nat.succ_le_succ (Nat.zero_le n)) ha'

/-- index writes, bifurcation check, `RestrictChain`, keeper writes: never fails and re-establishes the invariant -/
theorem update_core (hU : UOk env U) {s : State} (hi : Inv env U g s) {c p : Header} (uc : U c)
    (sp : Stored env s p) (eh : env.hash p = c.parentHash) (en : p.number + 1 = c.number) :
    ∃ s3, (if env.hash s.head ≠ c.parentHash then restrictChain .fixed env (store env s c) c else .ok (store env s c)) = .ok s3 ∧
      Inv env U g { s3 with head := c, cons := aset s3.cons c.number { time := c.time, root := c.root } } := by
  obtain ⟨hi2, sc2, hpc⟩ := store_inv hU hi uc sp eh en
  -- in both branches the result is the stored state with new consensus states that are right along c's ancestry
  have fin : ∀ cons', AncRoots (store env s c) c cons' →
      Inv env U g { store env s c with head := c, cons := aset cons' c.number (consOf c) } := fun cons' h2 =>
    have hc := head_write_core hU hi2.core sc2 h2
    ⟨hc.key, hi2.closed, hc.head, hc.roots⟩
  by_cases hb : env.hash s.head = c.parentHash
  · have hp : s.head = p := hU.inj _ _ (stored_U hi.core hi.head) (stored_U hi.core sp) (hb.trans eh.symm)
    exact ⟨_, if_neg (not_not_intro hb), fin _ (extend_roots hi2.core (show _ = some s.head from hp ▸ hpc))⟩
  · obtain ⟨c', h1, h2⟩ := restrictChain_spec hU hi2 sc2
    exact ⟨_, (if_pos hb).trans h1, fin c' h2⟩

theorem two64_eq : two64 = 2 * two63 := rfl

theorem wrapI64_small (x : Int) (h1 : -(two63 : Int) ≤ x) (h2 : x < (two63 : Int)) : wrapI64 x = x := by
  have h64 := two64_eq
  unfold wrapI64
  rw [Int.emod_eq_of_lt (by omega) (by omega)]
  exact Int.add_sub_cancel _ _

theorem wrapI64_natSub {a b : Nat} (ha : a < two63) (hb : b < two63) : wrapI64 ((a : Int) - b) = (a : Int) - b :=
  wrapI64_small _ (by omega) (by omega)

theorem emod_natSub {a b : Nat} (hle : b ≤ a) (ha : a < two63) : (((a : Int) - b) % (two64 : Int)).toNat = a - b := by
  have h64 := two64_eq
  rw [Int.emod_eq_of_lt (by omega) (by omega), Int.toNat_sub]

/-- for gas limits in the range `ValidateBasic` allows, `VerifyGaslimit` is the usual rule -/
theorem verifyGasLimit_iff (p h : Nat) (hp : p ≤ two63 - 1) (hh : h ≤ two63 - 1) :
    verifyGasLimit p h = true ↔ ((if h ≤ p then p - h else h - p) < p / 1024 ∧ 5000 ≤ h) := by
  have h63 : 0 < two63 := by decide
  have hp' : p < two63 := Nat.lt_of_le_of_lt hp (Nat.sub_lt h63 Nat.one_pos)
  have hh' : h < two63 := Nat.lt_of_le_of_lt hh (Nat.sub_lt h63 Nat.one_pos)
  -- none of the three int64 conversions at the start wraps
  have e1 := wrapI64_natSub hp' h63
  have e2 := wrapI64_natSub hh' h63
  simp only [Int.natCast_zero, Int.sub_zero] at e1 e2
  unfold verifyGasLimit
  simp only [e1, e2, wrapI64_natSub hp' hh']
  by_cases hle : h ≤ p
  · have c1 : ¬ ((p : Int) - h < 0) := Int.not_lt.mpr (Int.sub_nonneg_of_le (Int.ofNat_le.mpr hle))
    simp only [c1, ↓reduceIte, hle, emod_natSub hle hp']
    simp
  · -- the difference is negative: it is negated (no wrap) and converted to uint64
    have c1 : (p : Int) - h < 0 := Int.sub_neg_of_lt (Int.ofNat_lt.mpr (Nat.lt_of_not_le hle))
    have c2 : ((p : Int) - h) * -1 = (h : Int) - p := by rw [Int.mul_neg_one, Int.neg_sub]
    simp only [c1, ↓reduceIte, hle, c2, wrapI64_natSub hh' hp', emod_natSub (Nat.le_of_not_le hle) hh']
    simp

/-- what the property calls a rule-abiding child `c` of `p` at block time `now` -/
structure ValidChild (env : Env) (chainId now : Nat) (p c : Header) : Prop where
  hash : env.hash p = c.parentHash
  number : p.number + 1 = c.number
  rev : c.rev = p.rev
  timeParent : p.time < c.time
  timeFuture : c.time ≤ now + 15
  basic : validateBasic c = true
  gas : verifyGasLimit p.gasLimit c.gasLimit = true
  baseFee : calcBaseFee p = some c.baseFee
  pow : chainId ≠ 4 → calcDifficulty c.time p = (c.difficulty : Int) ∧ c.extraLen ≤ 32 ∧ env.powOk c = true

theorem verdict_ite_err_eq_ok {c : Prop} [Decidable c] {e : String} {x : Verdict} :
    (if c then Verdict.err e else x) = Verdict.ok ↔ ¬ c ∧ x = Verdict.ok := by
  by_cases h : c <;> simp [h]

theorem verifyEip1559_ok {p c : Header} (h : verifyEip1559 p c = .ok) :
    verifyGasLimit p.gasLimit c.gasLimit = true ∧ calcBaseFee p = some c.baseFee := by
  unfold verifyEip1559 at h
  obtain ⟨hg, h⟩ := verdict_ite_err_eq_ok.mp h
  split at h
  · cases h
  · rename_i e he
    split at h
    · rename_i hb; exact ⟨by simpa using hg, by rw [he, hb]⟩
    · cases h

theorem verifyHeader_ok {s : State} {now : Nat} {c : Header} (h : verifyHeader env s now c = .ok) :
    ∃ p, parentOf s c = some p ∧ env.hash p = c.parentHash ∧ p.time < c.time ∧ c.time ≤ now + 15 ∧
      verifyGasLimit p.gasLimit c.gasLimit = true ∧ calcBaseFee p = some c.baseFee ∧
      (s.chainId ≠ 4 → calcDifficulty c.time p = (c.difficulty : Int)) ∧ c.rev = p.rev := by
  unfold verifyHeader at h
  cases hp : parentOf s c with
  | none => simp only [hp] at h; cases h
  | some p =>
    simp only [hp, verdict_ite_err_eq_ok] at h
    obtain ⟨hh, hrv, hf, ht, h⟩ := h
    split at h
    · rename_i he
      obtain ⟨g1, g2⟩ := verifyEip1559_ok he
      refine ⟨p, rfl, Decidable.not_not.mp hh, Nat.lt_of_not_le ht, Nat.le_of_not_lt hf, g1, g2, ?_, Decidable.not_not.mp hrv⟩
      intro hc
      -- a wrong difficulty is only let through on chain id 4
      refine Decidable.by_contra fun hd => ?_
      simp only [ne_eq, hd, not_false_eq_true, ↓reduceIte, hc] at h
      cases h
    · exact absurd h ‹_›

theorem checkValidity_basic {s : State} {now : Nat} {c : Header} (h : checkValidity env s now c = .ok) :
    validateBasic c = true := by
  unfold checkValidity at h
  simpa using (verdict_ite_err_eq_ok.mp h).1

/-- an accepted header has a parent in the index of which it is a rule-abiding child (the block number, which `verifyHeader`
    does not compare, follows from the key of the parent lookup) -/
theorem checkValidity_ok {s : State} {now : Nat} {c : Header} (h : checkValidity env s now c = .ok) :
    ∃ p, parentOf s c = some p ∧ (p.number + 1 = c.number → ValidChild env s.chainId now p c) := by
  have hb := checkValidity_basic h
  unfold checkValidity at h
  obtain ⟨_, h⟩ := verdict_ite_err_eq_ok.mp h
  split at h
  · rename_i hv
    obtain ⟨p, h1, h2, h3, h4, h5, h6, h7, hrv⟩ := verifyHeader_ok hv
    refine ⟨p, h1, fun en => ⟨h2, en, hrv, h3, h4, hb, h5, h6, fun hc => ?_⟩⟩
    simp only [hc, ne_eq, not_false_eq_true, ↓reduceIte, verdict_ite_err_eq_ok] at h
    exact ⟨h7 hc, Nat.le_of_not_lt h.1, by simpa using h.2.1⟩
  · exact absurd h ‹_›

theorem checkValidity_complete {s : State} {now : Nat} {p c : Header} (hp : parentOf s c = some p)
    (v : ValidChild env s.chainId now p c) : checkValidity env s now c = .ok := by
  have h1 : ¬ (c.time > now + 15) := Nat.not_lt.mpr v.timeFuture
  have h2 : ¬ (c.time ≤ p.time) := Nat.not_le.mpr v.timeParent
  have hvh : verifyHeader env s now c = .ok := by
    unfold verifyHeader verifyEip1559
    simp only [hp, v.hash, v.rev, ne_eq, not_true_eq_false, ↓reduceIte, h1, h2, v.gas, Bool.not_true, v.baseFee]
    by_cases hc : s.chainId = 4
    · simp [hc]
    · simp [(v.pow hc).1]
  unfold checkValidity
  simp only [v.basic, Bool.not_true, hvh]
  by_cases hc : s.chainId = 4
  · simp [hc]
  · obtain ⟨_, e, pw⟩ := v.pow hc
    have : ¬ (c.extraLen > 32) := Nat.not_lt.mpr e
    simp [hc, this, pw]

/-- `UpdateClient` by stages: status, validity, prune pass, index writes, `RestrictChain` unless the header extends the head,
    keeper writes -/
theorem updateClient_ok_iff {v : Variant} {now : Nat} {s s' : State} {c : Header} :
    updateClient v env now s c = .ok s' ↔
      active s now = true ∧ checkValidity env s now c = .ok ∧
      ∃ s1 s3, pruneStep s now = .ok s1 ∧
        (if env.hash s.head ≠ c.parentHash then restrictChain v env (store env s1 c) c else .ok (store env s1 c)) = .ok s3 ∧
        s' = { s3 with head := c, cons := aset s3.cons c.number { time := c.time, root := c.root } } := by
  unfold updateClient
  cases ha : active s now <;> simp only [Bool.not_false, Bool.not_true, ↓reduceIte, Bool.false_eq_true, false_and, true_and, reduceCtorEq]
  cases hcv : checkValidity env s now c <;> simp only [reduceCtorEq, false_and, true_and]
  cases hp : pruneStep s now <;>
    simp only [reduceCtorEq, false_and, exists_false, Outcome.ok.injEq, exists_and_left, exists_eq_left']
  generalize (if env.hash s.head ≠ c.parentHash then restrictChain v env (store env _ c) c else Outcome.ok (store env _ c)) = r
  cases r with
  | ok s3 => simp only [Outcome.ok.injEq, exists_eq_left']; exact eq_comm
  | err e => simp only [reduceCtorEq, false_and, exists_false]
  | panic e => simp only [reduceCtorEq, false_and, exists_false]

theorem pruneStep_hdr {s s1 : State} {now : Nat} (h : pruneStep s now = .ok s1) :
    ∀ k h, aget s1.hdr k = some h → aget s.hdr k = some h := by
  unfold pruneStep deleteAt at h
  split at h
  · cases h; exact fun _ _ hg => hg
  · split at h
    · cases h
    · split at h
      · cases h
      · cases h; exact fun _ _ => adel_mono _ _ _ _

/-- Both texts of `RestrictChain`, pruning included: an accepted header has a stored parent
    with the same hash one height below, obeys the time, gas-limit and base-fee rules and, unless the chain id is
    4, the difficulty and proof-of-work rules; it becomes the head. -/
theorem accept_sound (hU : UOk env U) {v : Variant} {s s' : State} {now : Nat} {c : Header}
    (hk : ∀ k h, aget s.hdr k = some h → k = hkey env h ∧ U h) (uc : U c)
    (h : updateClient v env now s c = .ok s') :
    ∃ p, Stored env s p ∧ ValidChild env s.chainId now p c ∧ s'.head = c := by
  obtain ⟨_, hcv, _, _, _, _, rfl⟩ := updateClient_ok_iff.mp h
  obtain ⟨p, h1, hv⟩ := checkValidity_ok hcv
  obtain ⟨e1, _, sp⟩ := parent_facts hU hk uc h1
  exact ⟨p, sp, hv e1, rfl⟩

/-- one accepted update of the repaired client, no consensus state expired: always succeeds for a rule-abiding
    child of a stored header, re-establishes the invariant -/
theorem step_fixed (hU : UOk env U) {s : State} (hi : Inv env U g s) {now : Nat} {c p : Header} (uc : U c)
    (sp : Stored env s p) (hv : ValidChild env s.chainId now p c)
    (hact : active s now = true) (hnp : pruneHeight s now = none) :
    ∃ s', updateClient .fixed env now s c = .ok s' ∧ Inv env U g s' ∧ s'.head = c := by
  obtain ⟨s3, h3, hi3⟩ := update_core hU hi uc sp hv.hash hv.number
  have hcv := checkValidity_complete (parentOf_child hU uc sp hv.hash hv.number) hv
  exact ⟨_, updateClient_ok_iff.mpr ⟨hact, hcv, s, s3, by simp only [pruneStep, hnp], h3, rfl⟩, hi3, rfl⟩

/-- states of the repaired client reachable from its creation with `g` by any sequence of accepted updates
    (competing branches, any order, re-submissions) during which no consensus state has expired -/
inductive Reach (env : Env) (U : Header → Prop) (g : Header) (chainId trusting : Nat) : State → Prop
  | init : Reach env U g chainId trusting (initState env chainId trusting g)
  | step {s s' : State} {now : Nat} {c : Header} : Reach env U g chainId trusting s → U c → pruneHeight s now = none →
      updateClient .fixed env now s c = .ok s' → Reach env U g chainId trusting s'

theorem initState_hdr {chainId trusting : Nat} {k : Key} {h : Header}
    (hg : aget (initState env chainId trusting g).hdr k = some h) : k = hkey env g ∧ h = g := by
  simp only [initState, aget] at hg
  split at hg
  · rename_i e; exact ⟨e.symm, (Option.some.inj hg).symm⟩
  · cases hg

theorem init_inv (hU : UOk env U) (ug : U g) (chainId trusting : Nat) : Inv env U g (initState env chainId trusting g) := by
  have hk : KeyOk env U (initState env chainId trusting g) := fun k h hg => (initState_hdr hg).2 ▸ ⟨(initState_hdr hg).1, ug⟩
  have hnp : parentOf (initState env chainId trusting g) g = none :=
    no_parent_low hU hk (fun k h hg => Nat.le_of_eq (congrArg Header.number (initState_hdr hg).2.symm)) ug rfl
  refine ⟨hk, fun k h hg => Or.inl (initState_hdr hg).2, ?_, ?_⟩
  · simp [initState, aget]
  · intro n a ha
    cases n with
    | zero => obtain rfl : g = a := Option.some.inj ha; simp [initState, aget, consOf]
    | succ n => rw [show (initState env chainId trusting g).head = g from rfl, up_succ, hnp] at ha; cases ha

theorem reach_inv (hU : UOk env U) (ug : U g) {chainId trusting : Nat} {s : State}
    (hr : Reach env U g chainId trusting s) : Inv env U g s := by
  induction hr with
  | init => exact init_inv hU ug chainId trusting
  | @step s0 s1 now0 c0 _ uc hnp hstep ih =>
    obtain ⟨p, sp, hv, _⟩ := accept_sound hU ih.key uc hstep
    obtain ⟨_, h1, h2, _⟩ := step_fixed hU ih uc sp hv (updateClient_ok_iff.mp hstep).1 hnp
    exact Outcome.ok.inj (hstep.symm.trans h1) ▸ h2

/-- Repaired `RestrictChain`: after any sequence of accepted headers — competing branches in any
    order, re-submissions — a rule-abiding child of ANY stored header is accepted (the client being active and its
    lowest consensus state unexpired). -/
theorem never_wedged (hU : UOk env U) (ug : U g) {chainId trusting : Nat} {s : State}
    (hr : Reach env U g chainId trusting s) {now : Nat} {p c : Header} (uc : U c) (sp : Stored env s p)
    (hv : ValidChild env s.chainId now p c) (hact : active s now = true) (hnp : pruneHeight s now = none) :
    ∃ s', updateClient .fixed env now s c = .ok s' ∧ s'.head = c := by
  obtain ⟨s', h1, _, h3⟩ := step_fixed hU (reach_inv hU ug hr) uc sp hv hact hnp
  exact ⟨s', h1, h3⟩

/-- Repaired `RestrictChain`: in every reachable state the consensus state kept for the height
    of any ancestor of the head is that ancestor's state root (and time stamp). -/
theorem ancestry_roots (hU : UOk env U) (ug : U g) {chainId trusting : Nat} {s : State}
    (hr : Reach env U g chainId trusting s) (n : Nat) (a : Header) (ha : walkCur s n s.head = some a) :
    aget s.cons a.number = some { time := a.time, root := a.root } :=
  (reach_inv hU ug hr).roots n a ha

/-- … and every height from the client's initial height up to the head is covered by such an ancestor. -/
theorem ancestry_total (hU : UOk env U) (ug : U g) {chainId trusting : Nat} {s : State}
    (hr : Reach env U g chainId trusting s) (k : Nat) (h1 : g.number ≤ k) (h2 : k ≤ s.head.number) :
    ∃ a, walkCur s (s.head.number - k) s.head = some a ∧ a.number = k ∧
      aget s.cons k = some { time := a.time, root := a.root } := by
  have hi := reach_inv hU ug hr
  obtain ⟨a, ha, _⟩ := up_at hU hi.key hi.head (up_bottom hU hi hi.head) h1 h2
  have e2 := up_number hU hi.key hi.head h2 ha
  exact ⟨a, ha, e2, e2 ▸ hi.roots _ a ha⟩

end

/-! ### key consistency of the header index survives every accepted update (either text of `RestrictChain`, pruning included) -/

theorem repoint_hdr (xs : List Hash) (s s' : State) (t : Nat) (h : repoint s xs t = some s') : s'.hdr = s.hdr := by
  fun_induction repoint s xs t with
  | case1 => cases h; rfl
  | case2 => cases h
  | case3 s x xs t hd hl ih => exact ih h

theorem rcTail_hdr {v : Variant} {env : Env} {s s' : State} {a b : Header} {acc : List Hash} {t : Nat}
    (h : rcTail v env s a b acc t = .ok s') : s'.hdr = s.hdr := by
  unfold rcTail rcFinish at h
  split at h
  · cases h
  · cases h
  · dsimp only at h
    split at h
    · cases h
    · rename_i hr; cases h; exact repoint_hdr _ _ _ _ hr

theorem restrictChain_hdr {v : Variant} {env : Env} {s s' : State} {c : Header}
    (h : restrictChain v env s c = .ok s') : s'.hdr = s.hdr := by
  unfold restrictChain at h
  dsimp only at h
  split at h
  · cases h
  · cases h
  · split at h
    · cases h
    · exact rcTail_hdr h

theorem keyOk_step {env : Env} {U : Header → Prop} {v : Variant} {s s' : State} {now : Nat} {c : Header}
    (hk : KeyOk env U s) (uc : U c) (h : updateClient v env now s c = .ok s') : KeyOk env U s' := by
  obtain ⟨_, _, s1, s3, hp, h3, rfl⟩ := updateClient_ok_iff.mp h
  have h1 : KeyOk env U (store env s1 c) := store_key (fun k h hg => hk k h (pruneStep_hdr hp k h hg)) uc
  have hh : s3.hdr = (store env s1 c).hdr := by
    split at h3
    · exact restrictChain_hdr h3
    · cases h3; rfl
  exact fun k h' hg => h1 k h' (hh ▸ (hg : aget s3.hdr k = some h'))

/-- states reachable by accepted updates of either text of `RestrictChain`, pruning steps included -/
inductive ReachAny (env : Env) (U : Header → Prop) (v : Variant) (g : Header) (chainId trusting : Nat) : State → Prop
  | init : ReachAny env U v g chainId trusting (initState env chainId trusting g)
  | step {s s' : State} {now : Nat} {c : Header} : ReachAny env U v g chainId trusting s → U c →
      updateClient v env now s c = .ok s' → ReachAny env U v g chainId trusting s'

theorem reachAny_keyOk {env : Env} {U : Header → Prop} {g : Header} (hU : UOk env U) (ug : U g) {v : Variant}
    {chainId trusting : Nat} {s : State} (hr : ReachAny env U v g chainId trusting s) : KeyOk env U s := by
  induction hr with
  | init => exact (init_inv hU ug chainId trusting).key
  | step _ uc' hs ih => exact keyOk_step ih uc' hs

/-- `accept_sound` over all histories (either text of the loop, with pruning): whatever was accepted before, an
    accepted header is a rule-abiding child of a header that is in the index, and becomes the head. -/
theorem accept_sound_reach {env : Env} {U : Header → Prop} {g : Header} (hU : UOk env U) (ug : U g) {v : Variant}
    {chainId trusting : Nat} {s s' : State} (hr : ReachAny env U v g chainId trusting s) {now : Nat} {c : Header} (uc : U c)
    (h : updateClient v env now s c = .ok s') :
    ∃ p, Stored env s p ∧ ValidChild env s.chainId now p c ∧ s'.head = c :=
  accept_sound hU (reachAny_keyOk hU ug hr) uc h

/-! ### concrete witnesses: `RestrictChain` before fix 1d199fb violates both properties; non-vacuity of the hypotheses -/

def wenv : Env := { hash := fun h => h.rest, powOk := fun _ => true }
def wG : Header :=
  { parentHash := 99, uncleEmpty := true, root := 500, difficulty := 1, number := 10, rev := 0, gasLimit := 8000,
    gasUsed := 4000, time := 1000, extraLen := 0, baseFee := 7, rest := 100 }
def wChild (p : Header) (id rt dt : Nat) : Header :=
  { parentHash := p.rest, uncleEmpty := true, root := rt, difficulty := 1, number := p.number + 1, rev := p.rev, gasLimit := p.gasLimit,
    gasUsed := p.gasUsed, time := p.time + dt, extraLen := 0, baseFee := p.baseFee, rest := id }
def wA1 := wChild wG 101 501 1
def wB1 := wChild wG 102 502 2
def wA2 := wChild wA1 103 503 1
def wA3 := wChild wA2 104 504 1
def wB2 := wChild wB1 105 503 1      -- cousin of A2 with A2's state root

def wrun (v : Variant) (s : State) : List Header → Option State
  | [] => some s
  | h :: hs => match updateClient v wenv 2000 s h with
    | .ok s' => wrun v s' hs
    | _ => none

def wInit : State := initState wenv 4 1000000 wG

/-- a store of the witness chain (chain id 4), written as the headers in the header index, those owning their root-main entry
    and those whose consensus state is kept at their height -/
def wState (hdr rootMain cons : List Header) (head : Header) (trusting : Nat) : State :=
  { hdr := hdr.map fun h => (hkey wenv h, h), rootMain := rootMain.map fun h => ((h.root, h.number), hkey wenv h),
    cons := cons.map fun h => (h.number, consOf h), head := head, chainId := 4, trusting := trusting }

def wS1 : State := wState [wA1, wG] [wA1, wG] [wA1, wG] wA1 1000000
def wS2 : State := wState [wB1, wA1, wG] [wB1, wA1, wG] [wB1, wG] wB1 1000000

theorem wrun_orig2 : wrun .orig wInit [wA1, wB1] = some wS2 := by decide +kernel

theorem wA2_valid : ValidChild wenv 4 2000 wA1 wA2 := by
  refine ⟨?_, ?_, ?_, ?_, ?_, ?_, ?_, ?_, fun hc => absurd rfl hc⟩ <;> decide +kernel

/-- F12 on the text before fix 1d199fb: with G←A1 and G←B1 accepted (head B1) the rule-abiding child A2 of the stored A1 is rejected … -/
theorem orig_wedged : ∃ s, wrun .orig wInit [wA1, wB1] = some s ∧ Stored wenv s wA1 ∧ active s 2000 = true ∧
    pruneHeight s 2000 = none ∧ checkValidity wenv s 2000 wA2 = .ok ∧
    updateClient .orig wenv 2000 s wA2 = .err "rc-repoint" := by
  refine ⟨wS2, wrun_orig2, ?_, ?_, ?_, ?_, ?_⟩ <;> decide +kernel

/-- … so the conclusion of `never_wedged` fails for that text, here stated without the two side conditions `active` and
    `pruneHeight … = none` (both hold in this state: `orig_wedged`) … -/
theorem never_wedged_orig_false :
    ¬ (∀ (s : State) (p c : Header), wrun .orig wInit [wA1, wB1] = some s → Stored wenv s p →
        ValidChild wenv s.chainId 2000 p c → ∃ s', updateClient .orig wenv 2000 s c = .ok s') := by
  intro h
  obtain ⟨s, h1, h2, _, _, _, h6⟩ := orig_wedged
  obtain rfl : wS2 = s := Option.some.inj (wrun_orig2.symm.trans h1)
  obtain ⟨s', h7⟩ := h wS2 wA1 wA2 h1 h2 wA2_valid
  rw [h6] at h7; cases h7

/-- … while the repaired one accepts it. -/
theorem fixed_accepts : (wrun .fixed wInit [wA1, wB1, wA2]).isSome = true := by decide +kernel

def wS6o : State := wState [wB2, wA3, wA2, wA1, wB1, wG] [wB2, wA3, wA1, wB1, wG] [wB2, wA3, wA1, wG] wB2 1000000
def wS6f : State := wState [wB2, wA3, wA2, wA1, wB1, wG] [wB2, wA3, wA1, wB1, wG] [wB2, wB1, wA3, wG] wB2 1000000

/-- root-main lookup in the text before fix 1d199fb: G←A1←A2←A3 (head), G←B1, then B2 (child of B1, state root of A2) is accepted
    without re-pointing height 11, which keeps A1's root although the head's ancestor there is B1 -/
theorem orig_root_mismatch : ∃ s, wrun .orig wInit [wA1, wB1, wA1, wA2, wA3, wB2] = some s ∧ s.head = wB2 ∧
    walkCur s 1 s.head = some wB1 ∧ aget s.cons wB1.number = some (consOf wA1) ∧ consOf wA1 ≠ consOf wB1 := by
  refine ⟨wS6o, ?_, rfl, ?_, ?_, ?_⟩ <;> decide +kernel

theorem fixed_root_ok : ∃ s, wrun .fixed wInit [wA1, wB1, wA1, wA2, wA3, wB2] = some s ∧ s.head = wB2 ∧
    aget s.cons wB1.number = some (consOf wB1) := by
  refine ⟨wS6f, ?_, rfl, ?_⟩ <;> decide +kernel

/-- the hypotheses of the theorems are satisfiable: the witness headers form a universe with collision-free hashes -/
def wU (h : Header) : Prop := h ∈ [wG, wA1, wB1, wA2, wA3, wB2]

instance : DecidablePred wU := fun h => by unfold wU; infer_instance

theorem UOk.of_list {env : Env} {L : List Header} (h1 : ∀ a ∈ L, ∀ b ∈ L, env.hash a = env.hash b → a = b)
    (h2 : ∀ a ∈ L, a.number < two63) : UOk env (fun h => h ∈ L) :=
  ⟨fun a b ha hb => h1 a ha b hb, h2⟩

theorem wU_ok : UOk wenv wU := UOk.of_list (by decide +kernel) (by decide +kernel)

example : ∃ s, Reach wenv wU wG 4 1000000 s ∧ s.head = wB1 ∧ Stored wenv s wA1 ∧ ValidChild wenv s.chainId 2000 wA1 wA2 := by
  have r1 : Reach wenv wU wG 4 1000000 wS1 := Reach.step (now := 2000) (c := wA1) Reach.init (by decide +kernel) (by decide +kernel) (by decide +kernel)
  have r2 : Reach wenv wU wG 4 1000000 wS2 := Reach.step (now := 2000) (c := wB1) r1 (by decide +kernel) (by decide +kernel) (by decide +kernel)
  exact ⟨wS2, r2, rfl, by decide +kernel, wA2_valid⟩

end TM.Eth
