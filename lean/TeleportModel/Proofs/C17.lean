import TeleportModel.Model.Adapter
/-
C17 — system-contract staking / governance act for the caller only, atomically.
Theorems about `Model/Adapter.lean`, for every external decoder / router / native handler (`Env`), every log list and
every call shape.
-/
namespace TM.Adapter

variable {δ ν : Type}

/-! ### 1. The hook chain executes exactly the filtered, mapped logs — order and multiplicity -/

theorem hook_eq_runItems (env : Env δ ν) (addr : Addr) (kinds : List EvKind) (logs : List (Log δ)) :
    ∀ n, hook env addr kinds n logs
        = runItems env n ((logs.filter (relevant addr kinds)).map (toItem env kinds)) := by
  induction logs with
  | nil => intro n; rfl
  | cons l ls ih =>
    intro n
    by_cases ha : (l.address == addr) = true
    · cases ht : l.topics with
      | nil =>
        simp only [hook, relevant, ha, ↓reduceIte, ht, List.filter_cons, Bool.and_self, List.map_cons, runItems, toItem,
          runItem]
      | cons t ts =>
        cases hl : lookup kinds t with
        | none =>
          simp only [hook, relevant, ha, ↓reduceIte, ht, hl, List.filter_cons, Option.isSome_none, Bool.and_false,
            Bool.false_eq_true]
          exact ih n
        | some k =>
          simp only [hook, relevant, ha, ↓reduceIte, ht, hl, List.filter_cons, Option.isSome_some, Bool.and_self,
            List.map_cons, runItems]
          cases hr : (runItem env n (toItem env kinds l)).res with
          | ok n' => simp only [ih n']
          | err _ | panic _ => rfl
    · simp only [hook, relevant, ha, Bool.false_eq_true, ↓reduceIte, List.filter_cons, Bool.false_and]
      exact ih n

theorem runItems_append (env : Env δ ν) (a b : List (Outcome Msg)) :
    ∀ n, runItems env n (a ++ b)
        = match (runItems env n a).res with
          | .ok n' => { res := (runItems env n' b).res, trace := (runItems env n a).trace ++ (runItems env n' b).trace }
          | _ => runItems env n a := by
  induction a with
  | nil => intro n; rfl
  | cons it rest ih =>
    intro n
    rw [List.cons_append, runItems, runItems]
    cases hr : (runItem env n it).res with
    | ok n' =>
      dsimp only
      rw [ih n']
      cases hr2 : (runItems env n' rest).res with
      | ok n'' => dsimp only; rw [List.append_assoc]
      | err _ | panic _ => rw [hr2]
    | err _ | panic _ => rw [hr]

/-- The hook chain (`PostTxProcessing` of the staking adapter, then of the gov
adapter) is the sequential execution of `(logs.filter (address = system contract ∧ first topic in the handler
table)).map toItem` — same order, same multiplicity, nothing else; result and trace of executed messages agree. -/
theorem executes_exactly_filtered (env : Env δ ν) (n : ν) (logs : List (Log δ)) :
    postTx env n logs = runItems env n (expectedItems env logs) := by
  simp only [postTx, expectedItems, itemsOf, runItems_append, hook_eq_runItems, SysC.addr, kindsOf]
  cases (runItems env n (List.map (toItem env stakingKinds) (List.filter (relevant stakingAddr stakingKinds) logs))).res <;> rfl

def okMsgs : List (Outcome Msg) → List Msg
  | [] => []
  | .ok m :: rest => m :: okMsgs rest
  | _ :: rest => okMsgs rest

theorem runItems_trace_prefix (env : Env δ ν) (items : List (Outcome Msg)) (n : ν) :
    ∃ rest, okMsgs items = (runItems env n items).trace ++ rest := by
  fun_induction runItems env n items with
  | case1 n => exact ⟨[], rfl⟩
  | case2 n it rest r n' hr r2 ih =>
    obtain ⟨tl, htl⟩ := ih
    cases it with
    | ok m => exact ⟨tl, congrArg (m :: ·) htl⟩
    | err _ | panic _ => cases hr
  | case3 n it rest r hr => cases it <;> exact ⟨okMsgs rest, rfl⟩

theorem runItems_ok_all (env : Env δ ν) (items : List (Outcome Msg)) (n n' : ν) (h : (runItems env n items).res = .ok n') :
    (runItems env n items).trace = okMsgs items ∧ items = (okMsgs items).map .ok := by
  fun_induction runItems env n items with
  | case1 n => exact ⟨rfl, rfl⟩
  | case2 n it rest r n1 hr r2 ih =>
    obtain ⟨h1, h2⟩ := ih h
    cases it with
    | ok m => exact ⟨congrArg (m :: ·) h1, congrArg (.ok m :: ·) h2⟩
    | err _ | panic _ => cases hr
  | case3 n it rest r hr => exact absurd h (hr n')

/-- the messages handed to `ExecuteMsg` are always an initial segment of the filtered/mapped logs, and all of
them (each exactly once, in order) when the hook chain succeeds. -/
theorem executed_prefix (env : Env δ ν) (n : ν) (logs : List (Log δ)) :
    ∃ rest, okMsgs (expectedItems env logs) = (postTx env n logs).trace ++ rest := by
  rw [executes_exactly_filtered]; exact runItems_trace_prefix env _ n

theorem executed_all_of_ok (env : Env δ ν) (n n' : ν) (logs : List (Log δ))
    (h : (postTx env n logs).res = .ok n') :
    (postTx env n logs).trace = okMsgs (expectedItems env logs) ∧
      expectedItems env logs = (okMsgs (expectedItems env logs)).map .ok := by
  rw [executes_exactly_filtered] at h ⊢; exact runItems_ok_all env _ n n' h

/-! ### 2. Call frames: which logs carry a system-contract address -/

def notSys (a : Addr) : Prop := a ≠ stakingAddr ∧ a ≠ govAddr

/-- provenance invariant of a receipt: a log with `origin = some (sender, call)` is exactly what the system contract
emits for `call` when entered by CALL from `sender`; every other log carries an address that is not a system contract. -/
def GOK (env : Env δ ν) (g : GLog δ) : Prop :=
  match g.origin with
  | some (s, c) => g.log = sysLog env c.contract.addr s c
  | none => notSys g.log.address

theorem notSys_of_bne {a : Addr} (h : (a != stakingAddr) = true ∧ (a != govAddr) = true) : notSys a :=
  ⟨bne_iff_ne.mp h.1, bne_iff_ne.mp h.2⟩

theorem gok_of_ignored (env : Env δ ν) {ig : Bool} {st st' : Evm} {gl : List (GLog δ)}
    (h : (if ig then some (st, ([] : List (GLog δ))) else none) = some (st', gl)) : ∀ g ∈ gl, GOK env g := by
  cases ig with
  | false => cases h
  | true => cases h; intro g hg; cases hg

theorem gok_of_single (env : Env δ ν) {st st' : Evm} {g0 : GLog δ} {gl : List (GLog δ)}
    (h : some (st, [g0]) = some (st', gl)) (h0 : GOK env g0) : ∀ g ∈ gl, GOK env g := by
  cases h
  intro g hg
  rw [List.mem_singleton.mp hg]
  exact h0

def NodeOK (env : Env δ ν) (nd : Node δ) : Prop :=
  ∀ (f : Frame) (st : Evm), notSys f.self → nd.wf = true →
    ∀ st' gl, runNode env f st nd = some (st', gl) → ∀ g ∈ gl, GOK env g

def NodesOK (env : Env δ ν) (nds : List (Node δ)) : Prop :=
  ∀ (f : Frame) (st : Evm), notSys f.self → Node.wfs nds = true →
    ∀ st' gl, runNodes env f st nds = some (st', gl) → ∀ g ∈ gl, GOK env g

theorem nodeOK_proxy (env : Env δ ν) (k : CallKind) (ignore : Bool) (target : Addr) (body : List (Node δ))
    (hb : NodesOK env body) : NodeOK env (.proxy k ignore target body) := by
  intro f st hf hwf st' gl h
  simp only [Node.wf, Bool.and_eq_true] at hwf
  -- the frame the body runs in: the caller's own for DELEGATECALL, else a fresh one at `target`; never a system address
  have hbody : ∀ f' : Frame, notSys f'.self →
      (match runNodes env f' (bump f'.self st) body with
        | some r => some r
        | none => if ignore then some (st, []) else none) = some (st', gl) → ∀ g ∈ gl, GOK env g := by
    intro f' hf' h
    cases hr : runNodes env f' (bump f'.self st) body with
    | some r => rw [hr] at h; cases h; exact hb f' _ hf' hwf.2 _ _ hr
    | none => rw [hr] at h; exact gok_of_ignored env h
  have ht := notSys_of_bne hwf.1
  cases k with
  | call | vcall => exact hbody { self := target, sender := f.self } ht h
  | dcall => exact hbody f hf h
  | scall => exact gok_of_ignored env h

theorem nodeOK_sys (env : Env δ ν) (k : CallKind) (ig : Bool) (c : SysCall) : NodeOK env (.sys k ig c) := by
  intro f st hf _ st' gl h
  cases k with
  | call => exact gok_of_single env h rfl
  | dcall => exact gok_of_single env h hf
  | scall | vcall => exact gok_of_ignored env h

theorem nodesOK_nil (env : Env δ ν) : NodesOK env [] := by
  intro f st _ _ st' gl h g hg
  cases h
  cases hg

theorem nodesOK_cons (env : Env δ ν) (nd : Node δ) (rest : List (Node δ)) (hnd : NodeOK env nd) (hrest : NodesOK env rest) :
    NodesOK env (nd :: rest) := by
  intro f st hf hwf st' gl h
  simp only [Node.wfs, Bool.and_eq_true] at hwf
  rw [runNodes] at h
  cases h1 : runNode env f st nd with
  | none => rw [h1] at h; cases h
  | some r1 =>
    obtain ⟨st1, l1⟩ := r1
    rw [h1] at h
    dsimp only at h
    cases h2 : runNodes env f st1 rest with
    | none => rw [h2] at h; cases h
    | some r2 =>
      obtain ⟨st2, l2⟩ := r2
      rw [h2] at h
      cases h
      intro g hg
      rcases List.mem_append.mp hg with hg | hg
      · exact hnd f st hf hwf.1 st1 l1 h1 g hg
      · exact hrest f st1 hf hwf.2 _ _ h2 g hg

theorem runNode_gok (env : Env δ ν) : ∀ nd : Node δ, NodeOK env nd :=
  Node.rec (motive_1 := NodeOK env) (motive_2 := NodesOK env)
    (nodeOK_proxy env)
    (nodeOK_sys env)
    (fun _ _ _ _ _ _ _ _ _ h => gok_of_ignored env h)
    (fun _ _ _ _ hf _ _ _ h => gok_of_single env h hf)
    (fun _ _ _ _ _ _ h => nomatch h)
    (nodesOK_nil env)
    (nodesOK_cons env)

theorem runNodes_gok (env : Env δ ν) : ∀ (nds : List (Node δ)) (f : Frame) (st : Evm), notSys f.self → Node.wfs nds = true →
    ∀ st' gl, runNodes env f st nds = some (st', gl) → ∀ g ∈ gl, GOK env g
  | [] => nodesOK_nil env
  | nd :: rest => nodesOK_cons env nd rest (runNode_gok env nd) (runNodes_gok env rest)

theorem runEvm_gok (env : Env δ ν) (evm : Evm) (tx : Tx δ) (hwf : tx.wf = true) (evm' : Evm) (gl : List (GLog δ))
    (h : runEvm env evm tx = some (evm', gl)) : ∀ g ∈ gl, GOK env g := by
  simp only [Tx.wf, Bool.and_eq_true] at hwf
  exact runNode_gok env tx.root _ evm (notSys_of_bne hwf.1) hwf.2 evm' gl h

/-! ### 3. Attribution: executed messages = calls of the system contracts, signed by the caller, arguments copied -/

/-- the ABI decoder inverts what the compiled contracts encode (an assumption about go-ethereum's `abi` package and
solc, exercised by the correspondence run; never an axiom). -/
def RoundTrip (env : Env δ ν) : Prop := ∀ ev : Event, env.decode ev.kind (env.encode ev) = .ok ev

/-- the calls of system contract `c` recorded in a receipt: (msg.sender of the contract frame, function + arguments). -/
def attributed (c : SysC) (gl : List (GLog δ)) : List (Addr × SysCall) :=
  gl.filterMap (fun g => match g.origin with
    | some (s, call) => if call.contract = c then some (s, call) else none
    | none => none)

theorem lookup_kind : ∀ k : EvKind, lookup (kindsOf k.contract) (topicOf k) = some k := by
  intro k; cases k <;> decide +kernel

theorem lookup_emit (s : Addr) (c : SysCall) :
    lookup (kindsOf c.contract) (topicOf (emitOf s c).kind) = some (emitOf s c).kind := by
  cases c <;> exact lookup_kind _

theorem addr_beq (a b : SysC) : (a.addr == b.addr) = decide (a = b) := by
  cases a <;> cases b <;> decide +kernel

theorem relevant_sysLog (env : Env δ ν) (c : SysC) (s : Addr) (call : SysCall) :
    relevant c.addr (kindsOf c) (sysLog env call.contract.addr s call) = decide (call.contract = c) := by
  simp only [relevant, sysLog, addr_beq]
  by_cases h : call.contract = c
  · subst h
    rw [lookup_emit, Option.isSome_some, Bool.and_true]
  · rw [decide_eq_false h, Bool.false_and]

theorem toItem_sysLog (env : Env δ ν) (hrt : RoundTrip env) (s : Addr) (call : SysCall) :
    toItem env (kindsOf call.contract) (sysLog env call.contract.addr s call) = construct (emitOf s call) := by
  simp [toItem, sysLog, lookup_emit, parseLog, hrt (emitOf s call)]

theorem relevant_notSys (c : SysC) (l : Log δ) (h : notSys l.address) : relevant c.addr (kindsOf c) l = false := by
  have hne : l.address ≠ c.addr := by
    cases c
    · exact h.1
    · exact h.2
  rw [relevant, beq_false_of_ne hne, Bool.false_and]

theorem itemsOf_glogs (env : Env δ ν) (hrt : RoundTrip env) (c : SysC) (gl : List (GLog δ)) (h : ∀ g ∈ gl, GOK env g) :
    itemsOf env c (gl.map (·.log)) = (attributed c gl).map (fun sc => construct (emitOf sc.1 sc.2)) := by
  induction gl with
  | nil => rfl
  | cons g rest ih =>
    obtain ⟨hg, hrest⟩ := List.forall_mem_cons.mp h
    have ih' := ih hrest
    simp only [itemsOf] at ih' ⊢
    cases ho : g.origin with
    | none =>
      simp only [GOK, ho] at hg
      simp only [List.map_cons, List.filter_cons, relevant_notSys c g.log hg, Bool.false_eq_true, ↓reduceIte,
        attributed, List.filterMap_cons, ho]
      exact ih'
    | some sc =>
      obtain ⟨s, call⟩ := sc
      simp only [GOK, ho] at hg
      simp only [List.map_cons, List.filter_cons, hg, relevant_sysLog, attributed, List.filterMap_cons, ho]
      by_cases hc : call.contract = c
      · subst hc
        simp only [decide_true, ↓reduceIte, List.map_cons, toItem_sysLog env hrt]
        rw [ih']; rfl
      · simp only [hc, decide_false, Bool.false_eq_true, ↓reduceIte]
        exact ih'

theorem expected_eq_attributed (env : Env δ ν) (hrt : RoundTrip env) (gl : List (GLog δ)) (h : ∀ g ∈ gl, GOK env g) :
    expectedItems env (gl.map (·.log))
      = (attributed .staking gl ++ attributed .gov gl).map (fun sc => construct (emitOf sc.1 sc.2)) := by
  simp [expectedItems, itemsOf_glogs env hrt _ gl h]

/-- Message construction: whenever a handler builds a message from the event a system contract emits for `c`, that
message is `msgOf s c` — the frame's msg.sender as signer and the call's own arguments (see `args_copied`). -/
theorem construct_emit (s : Addr) (c : SysCall) (m : Msg) (h : construct (emitOf s c) = .ok m) : m = msgOf s c := by
  cases c with
  | voteWeighted p os =>
    -- the one handler that can refuse: an empty option list
    rw [emitOf, construct] at h
    cases hos : os.isEmpty with
    | true => rw [hos, if_pos rfl] at h; cases h
    | false => rw [hos, if_neg Bool.false_ne_true] at h; cases h; rfl
  | _ => cases h; rfl

/-- What `msgOf` copies, kind by kind (its defining equations, spelled out for the reader of the property): validator
strings, amount, proposal id verbatim, vote options through `VoteOption(uint32)`, weights through
`NewDecWithPrec(int64(w), 2)`. -/
theorem args_copied (s : Addr) :
    (∀ v a, msgOf s (.delegate v a) = .delegate s v a) ∧
    (∀ v a, msgOf s (.undelegate v a) = .undelegate s v a) ∧
    (∀ v1 v2 a, msgOf s (.redelegate v1 v2 a) = .redelegate s v1 v2 a) ∧
    (∀ v, msgOf s (.withdraw v) = .withdraw s v) ∧
    (∀ p o, msgOf s (.vote p o) = .vote s p (toSigned 32 o)) ∧
    (∀ p os, msgOf s (.voteWeighted p os) = .voteWeighted s p (os.map (fun ow => (toSigned 32 ow.1, toSigned 64 ow.2)))) :=
  ⟨fun _ _ => rfl, fun _ _ => rfl, fun _ _ _ => rfl, fun _ => rfl, fun _ _ => rfl, fun _ _ => rfl⟩

theorem msgOf_signer (s : Addr) (c : SysCall) : (msgOf s c).signer = s := by cases c <;> rfl

/-- `VoteOption(uint32)` is the identity on the four valid options and never maps an invalid `uint32` to a valid one. -/
theorem voteOption_valid (u : Nat) (hu : u < 2 ^ 32) : validOption (voteOption u) = true ↔ (u = 1 ∨ u = 2 ∨ u = 3 ∨ u = 4) := by
  simp only [validOption, voteOption, toSigned, Nat.mod_eq_of_lt hu, Bool.or_eq_true, beq_iff_eq, or_assoc]
  split
  · -- below 2^31 the conversion is the embedding of ℕ in ℤ
    exact or_congr Int.ofNat_inj (or_congr Int.ofNat_inj (or_congr Int.ofNat_inj Int.ofNat_inj))
  · -- from 2^31 on the result is negative, and `u` is none of 1 … 4
    rename_i hge
    have hneg : (u : Int) - (2 ^ 32 : Nat) < 0 := Int.sub_neg_of_lt (Int.ofNat_lt.mpr hu)
    constructor
    · intro h
      rcases h with h | h | h | h <;> rw [h] at hneg <;> cases hneg
    · intro h
      rcases h with rfl | rfl | rfl | rfl <;> exact absurd (by decide) hge

theorem mem_okMsgs {items : List (Outcome Msg)} {m : Msg} (h : m ∈ okMsgs items) : .ok m ∈ items := by
  fun_induction okMsgs items with
  | case1 => cases h
  | case2 m' rest ih =>
    rcases List.mem_cons.mp h with h | h
    · rw [h]; exact List.mem_cons_self ..
    · exact List.mem_cons_of_mem _ (ih h)
  | case3 it rest _ ih => exact List.mem_cons_of_mem _ (ih h)

theorem okMsgs_map_of_all_ok {α} (f : α → Outcome Msg) (g : α → Msg) (hfg : ∀ a m, f a = .ok m → m = g a) (l : List α)
    (hl : l.map f = (okMsgs (l.map f)).map .ok) : okMsgs (l.map f) = l.map g := by
  induction l with
  | nil => rfl
  | cons a rest ih =>
    rw [List.map_cons] at hl ⊢
    cases hc : f a with
    | ok m =>
      simp only [hc, okMsgs, List.map_cons, List.cons.injEq, true_and] at hl
      simp only [okMsgs, List.map_cons, hfg a m hc, ih hl]
    | err e | panic e =>
      -- the right side starts with an `ok` or is empty
      simp only [hc, okMsgs] at hl
      cases hk : okMsgs (rest.map f) <;> rw [hk] at hl <;> cases hl

theorem mem_attributed (c : SysC) (gl : List (GLog δ)) (sc : Addr × SysCall) (h : sc ∈ attributed c gl) :
    ∃ g ∈ gl, g.origin = some sc := by
  simp only [attributed, List.mem_filterMap] at h
  obtain ⟨g, hg, hm⟩ := h
  refine ⟨g, hg, ?_⟩
  cases ho : g.origin with
  | none => simp [ho] at hm
  | some x =>
    obtain ⟨s, call⟩ := x
    simp only [ho] at hm
    split at hm
    · injection hm with hm; rw [hm]
    · cases hm

theorem postTx_ok_attributed (env : Env δ ν) (hrt : RoundTrip env) (n n' : ν) (gl : List (GLog δ))
    (hgok : ∀ g ∈ gl, GOK env g) (hres : (postTx env n (gl.map (·.log))).res = .ok n') :
    (postTx env n (gl.map (·.log))).trace
      = (attributed .staking gl ++ attributed .gov gl).map (fun sc => msgOf sc.1 sc.2) := by
  obtain ⟨h1, h2⟩ := executed_all_of_ok env n n' _ hres
  rw [expected_eq_attributed env hrt gl hgok] at h1 h2
  rw [h1]
  exact okMsgs_map_of_all_ok _ _ (fun sc m hc => construct_emit sc.1 sc.2 m hc) _ h2

theorem deliverTx_some (env : Env δ ν) (s : State ν) (tx : Tx δ) (evm' : Evm) (gl : List (GLog δ))
    (h : runEvm env s.evm tx = some (evm', gl)) :
    deliverTx env s tx =
      ((match (postTx env s.native (gl.map (·.log))).res with
        | .ok n' => ({ evm := evm', native := n' }, Status.ok)
        | .err _ => (s, Status.hookFail)
        | .panic _ => (s, Status.panicked)), (postTx env s.native (gl.map (·.log))).trace) := by
  simp only [deliverTx, applyTransaction, h]
  cases (postTx env s.native (gl.map (·.log))).res <;> rfl

theorem deliverTx_none (env : Env δ ν) (s : State ν) (tx : Tx δ) (h : runEvm env s.evm tx = none) :
    deliverTx env s tx = ((s, Status.vmFail), []) := by
  simp [deliverTx, applyTransaction, h]

/-- Every message handed to the native modules by a transaction was produced by a frame of a
system contract entered by CALL, and its signer (delegator / voter) is the msg.sender of that frame; its other fields
are that call's arguments. Holds for every call shape in which user code never runs at a system-contract address. -/
theorem signer_is_caller (env : Env δ ν) (hrt : RoundTrip env) (s : State ν) (tx : Tx δ) (hwf : tx.wf = true) :
    ∀ m ∈ (deliverTx env s tx).2, ∃ evm' gl, runEvm env s.evm tx = some (evm', gl) ∧
      ∃ g ∈ gl, ∃ sender call, g.origin = some (sender, call) ∧ m = msgOf sender call ∧ m.signer = sender := by
  intro m hm
  cases h : runEvm env s.evm tx with
  | none => rw [deliverTx_none env s tx h] at hm; simp at hm
  | some r =>
    obtain ⟨evm', gl⟩ := r
    refine ⟨evm', gl, rfl, ?_⟩
    rw [deliverTx_some env s tx evm' gl h] at hm
    simp only at hm
    obtain ⟨rest, hp⟩ := executed_prefix env s.native (gl.map (·.log))
    rw [expected_eq_attributed env hrt gl (runEvm_gok env s.evm tx hwf evm' gl h)] at hp
    have hm' := List.mem_append_left rest hm
    rw [← hp] at hm'
    obtain ⟨sc, hsc, hc⟩ := List.mem_map.mp (mem_okMsgs hm')
    have hmsg := construct_emit sc.1 sc.2 m hc
    obtain ⟨g, hg, ho⟩ := (List.mem_append.mp hsc).elim (mem_attributed _ gl sc) (mem_attributed _ gl sc)
    exact ⟨g, hg, sc.1, sc.2, ho, hmsg, by rw [hmsg, msgOf_signer]⟩

/-- the only place an `origin` is created: a CALL into a system contract from the frame whose `address(this)` is the
recorded sender (EVM: msg.sender of the callee = address of the calling frame). -/
theorem origin_is_calling_frame (env : Env δ ν) (f : Frame) (st : Evm) (ig : Bool) (c : SysCall) :
    runNode env f st (.sys .call ig c)
      = some (st, [{ log := sysLog env c.contract.addr f.self c, origin := some (f.self, c) }]) := rfl

/-- a successful transaction executed every attributed call exactly once, in order (staking calls, then governance
calls), and nothing else. -/
theorem executed_exactly_attributed (env : Env δ ν) (hrt : RoundTrip env) (s : State ν) (tx : Tx δ) (hwf : tx.wf = true)
    (h : (deliverTx env s tx).1.2 = .ok) :
    ∃ evm' gl, runEvm env s.evm tx = some (evm', gl) ∧
      (deliverTx env s tx).2 = (attributed .staking gl ++ attributed .gov gl).map (fun sc => msgOf sc.1 sc.2) ∧
      (deliverTx env s tx).1.1.evm = evm' := by
  cases hr : runEvm env s.evm tx with
  | none => rw [deliverTx_none env s tx hr] at h; cases h
  | some r =>
    obtain ⟨evm', gl⟩ := r
    refine ⟨evm', gl, rfl, ?_⟩
    rw [deliverTx_some env s tx evm' gl hr] at h ⊢
    cases hres : (postTx env s.native (gl.map (·.log))).res with
    | err _ | panic _ => simp [hres] at h
    | ok n' => exact ⟨postTx_ok_attributed env hrt s.native n' gl (runEvm_gok env s.evm tx hwf evm' gl hr) hres, rfl⟩

/-! ### 4. Atomicity: nothing of a transaction survives unless all of it does -/

/-- A transaction whose status is not `ok` (EVM failure, a hook error — parse failure, `ValidateBasic`,
missing route, any native handler error — or a panic) leaves the whole state, contract-visible and native, as it was. -/
theorem atomic (env : Env δ ν) (s : State ν) (tx : Tx δ) (h : (deliverTx env s tx).1.2 ≠ .ok) :
    (deliverTx env s tx).1.1 = s := by
  cases hr : runEvm env s.evm tx with
  | none => rw [deliverTx_none env s tx hr]
  | some r =>
    obtain ⟨evm', gl⟩ := r
    rw [deliverTx_some env s tx evm' gl hr] at h ⊢
    cases hres : (postTx env s.native (gl.map (·.log))).res with
    | ok n' => simp [hres] at h
    | err _ | panic _ => rfl

/-- any native failure (an attributed message that fails `ValidateBasic`, has no route, or whose handler returns an
error or panics) makes the status differ from `ok` — together with `atomic`: the EVM effects of the transaction are
discarded as well. -/
theorem native_failure_fails (env : Env δ ν) (s : State ν) (tx : Tx δ) (evm' : Evm) (gl : List (GLog δ))
    (hr : runEvm env s.evm tx = some (evm', gl))
    (hf : ∀ n', (runItems env s.native (expectedItems env (gl.map (·.log)))).res ≠ .ok n') :
    (deliverTx env s tx).1.2 ≠ .ok ∧ (deliverTx env s tx).1.1 = s := by
  have h1 : (deliverTx env s tx).1.2 ≠ .ok := by
    rw [deliverTx_some env s tx evm' gl hr]
    rw [← executes_exactly_filtered] at hf
    cases hres : (postTx env s.native (gl.map (·.log))).res with
    | ok n' => exact absurd hres (hf n')
    | err _ | panic _ => simp
  exact ⟨h1, atomic env s tx h1⟩

/-- the same discipline for the hook chain alone (module-level callers that branch the context). -/
theorem atomic_hooks (env : Env δ ν) (s : State ν) (logs : List (Log δ)) (h : (deliverHooks env s logs).1.2 ≠ .ok) :
    (deliverHooks env s logs).1.1 = s := by
  simp only [deliverHooks] at h ⊢
  cases hres : (postTx env s.native logs).res with
  | ok n' => simp [hres] at h
  | err _ | panic _ => rfl

/-- success commits both parts: the EVM state of the execution and the native state after all messages. -/
theorem commit_on_success (env : Env δ ν) (s : State ν) (tx : Tx δ) (evm' : Evm) (gl : List (GLog δ)) (n' : ν)
    (hr : runEvm env s.evm tx = some (evm', gl))
    (hres : (runItems env s.native (expectedItems env (gl.map (·.log)))).res = .ok n') :
    (deliverTx env s tx).1 = ({ evm := evm', native := n' }, .ok) := by
  rw [deliverTx_some env s tx evm' gl hr, executes_exactly_filtered, hres]

/-! ### 5. `BurnCoins` of the overwritten bank keeper conserves the supply -/

/-- amount (as moved) listed for denomination `d`. -/
def sumNat (cs : Coins) (d : Denom) : Nat :=
  match cs with
  | [] => 0
  | (d', x) :: rest => (if d' = d then x.toNat else 0) + sumNat rest d

theorem total_setBal_same (b : List ((Addr × Denom) × Nat)) (a : Addr) (d : Denom) (v : Nat) :
    totalBal (setBal b a d v) d + balOf b a d = totalBal b d + v := by
  fun_induction setBal b a d v with
  | case1 => simp only [totalBal, balOf, if_true, Nat.add_zero, Nat.zero_add]
  | case2 a' d' n rest h =>
    simp only [balOf, totalBal, if_pos h, if_pos h.2]
    rw [Nat.add_assoc, Nat.add_comm (totalBal rest d) n, Nat.add_comm v]
  | case3 a' d' n rest h ih =>
    simp only [balOf, totalBal, if_neg h]
    rw [Nat.add_assoc, ih, Nat.add_assoc]

theorem total_setBal_ne (b : List ((Addr × Denom) × Nat)) (a : Addr) (d : Denom) (v : Nat) (d0 : Denom) (hd : d ≠ d0) :
    totalBal (setBal b a d v) d0 = totalBal b d0 := by
  fun_induction setBal b a d v with
  | case1 => simp only [totalBal, if_neg hd]
  | case2 a' d' n rest h => simp only [totalBal, h.2, if_neg hd]
  | case3 a' d' n rest h ih => simp only [totalBal, ih]

theorem balOf_setBal (b : List ((Addr × Denom) × Nat)) (a : Addr) (d : Denom) (v : Nat) (a0 : Addr) (d0 : Denom) :
    balOf (setBal b a d v) a0 d0 = if a = a0 ∧ d = d0 then v else balOf b a0 d0 := by
  fun_induction setBal b a d v with
  | case1 => rfl
  | case2 a' d' n rest h =>
    obtain ⟨rfl, rfl⟩ := h
    simp only [balOf]
    split <;> rfl
  | case3 a' d' n rest h ih =>
    simp only [balOf, ih]
    by_cases h1 : a' = a0 ∧ d' = d0
    · obtain ⟨rfl, rfl⟩ := h1
      rw [if_pos ⟨rfl, rfl⟩, if_neg (fun hh => h ⟨hh.1.symm, hh.2.symm⟩), if_pos ⟨rfl, rfl⟩]
    · rw [if_neg h1, if_neg h1]

theorem total_setBal_add (b : List ((Addr × Denom) × Nat)) (a : Addr) (d : Denom) (k : Nat) :
    totalBal (setBal b a d (balOf b a d + k)) d = totalBal b d + k := by
  have hs := total_setBal_same b a d (balOf b a d + k)
  rw [← Nat.add_assoc, Nat.add_right_comm] at hs
  exact Nat.add_right_cancel hs

theorem total_setBal_sub (b : List ((Addr × Denom) × Nat)) (a : Addr) (d : Denom) (k : Nat) (hk : k ≤ balOf b a d) :
    totalBal (setBal b a d (balOf b a d - k)) d + k = totalBal b d := by
  have hs := congrArg (· + k) (total_setBal_same b a d (balOf b a d - k))
  rw [Nat.add_assoc (totalBal b d), Nat.sub_add_cancel hk, Nat.add_right_comm] at hs
  exact Nat.add_right_cancel hs

theorem subCoins_total (a : Addr) (cs : Coins) (b b1 : List ((Addr × Denom) × Nat)) (d0 : Denom)
    (h : subCoins b a cs = some b1) : totalBal b1 d0 + sumNat cs d0 = totalBal b d0 := by
  fun_induction subCoins b a cs with
  | case1 b => cases h; rfl
  | case2 b d x rest hle ih =>
    rw [sumNat]
    by_cases hd : d = d0
    · subst hd
      rw [if_pos rfl, Nat.add_comm x.toNat, ← Nat.add_assoc, ih h, total_setBal_sub b a d x.toNat (Int.toNat_le.mpr hle)]
    · rw [if_neg hd, Nat.zero_add, ih h, total_setBal_ne _ _ _ _ _ hd]
  | case3 => cases h

theorem addCoins_total (a : Addr) (cs : Coins) (b : List ((Addr × Denom) × Nat)) (d0 : Denom) :
    totalBal (addCoins b a cs) d0 = totalBal b d0 + sumNat cs d0 := by
  fun_induction addCoins b a cs with
  | case1 b => rfl
  | case2 b d x rest ih =>
    rw [sumNat, ih]
    by_cases hd : d = d0
    · subst hd
      rw [if_pos rfl, total_setBal_add, Nat.add_assoc]
    · rw [if_neg hd, Nat.zero_add, total_setBal_ne _ _ _ _ _ hd]

theorem sendModuleToModule_ok (bk bk' : Bank) (src dst : String) (amt : Coins)
    (h : sendModuleToModule bk src dst amt = .ok bk') :
    ∃ sa da b1, moduleAddr bk src = some sa ∧ moduleAddr bk dst = some da ∧ subCoins bk.bal sa amt = some b1 ∧
      bk' = { bk with bal := addCoins b1 da amt } := by
  unfold sendModuleToModule at h
  revert h
  cases moduleAddr bk src with
  | none => intro h; cases h
  | some sa =>
    cases moduleAddr bk dst with
    | none => intro h; cases h
    | some da =>
      cases coinsValid amt with
      | false => intro h; cases h
      | true =>
        simp only [Bool.not_true, Bool.false_eq_true, if_false]
        cases hsub : subCoins bk.bal sa amt with
        | none => intro h; cases h
        | some b1 => intro h; cases h; exact ⟨sa, da, b1, rfl, rfl, hsub, rfl⟩

/-- `OverwriteBankKeeper.BurnCoins` never changes the supply record nor the sum of all
balances of any denomination (contrast: `BaseKeeper.BurnCoins` lowers both). -/
theorem burn_conserves_supply (bk bk' : Bank) (m : String) (amt : Coins) (h : burnCoins bk m amt = .ok bk') :
    bk'.supply = bk.supply ∧ ∀ d, totalBal bk'.bal d = totalBal bk.bal d := by
  obtain ⟨sa, da, b1, _, _, hsub, hbk⟩ := sendModuleToModule_ok bk bk' m feeCollectorName amt h
  rw [hbk]
  exact ⟨rfl, fun d => (addCoins_total da amt b1 d).trans (subCoins_total sa amt bk.bal b1 d hsub)⟩

/-- a burn that fails or panics has no result state at all (`Outcome`), so nothing is written: the supply is
conserved on every path. -/
theorem burn_conserves_supply_always (bk : Bank) (m : String) (amt : Coins) :
    match burnCoins bk m amt with
    | .ok bk' => bk'.supply = bk.supply ∧ ∀ d, totalBal bk'.bal d = totalBal bk.bal d
    | _ => True := by
  cases h : burnCoins bk m amt with
  | ok bk' => exact burn_conserves_supply bk bk' m amt h
  | err _ | panic _ => trivial

theorem subCoins_other (a : Addr) (cs : Coins) (b b1 : List ((Addr × Denom) × Nat)) (a0 : Addr) (d0 : Denom)
    (hne : a ≠ a0) (h : subCoins b a cs = some b1) : balOf b1 a0 d0 = balOf b a0 d0 := by
  fun_induction subCoins b a cs with
  | case1 b => cases h; rfl
  | case2 b d x rest hle ih => rw [ih h, balOf_setBal, if_neg (fun hh => hne hh.1)]
  | case3 => cases h

theorem addCoins_self (a : Addr) (cs : Coins) (b : List ((Addr × Denom) × Nat)) (d0 : Denom) :
    balOf (addCoins b a cs) a d0 = balOf b a d0 + sumNat cs d0 := by
  fun_induction addCoins b a cs with
  | case1 b => rfl
  | case2 b d x rest ih =>
    rw [sumNat, ih, balOf_setBal]
    by_cases hd : d = d0
    · subst hd
      rw [if_pos ⟨rfl, rfl⟩, if_pos rfl, Nat.add_assoc]
    · rw [if_neg (fun hh => hd hh.2), if_neg hd, Nat.zero_add]

/-- the burned coins arrive at the fee collector. -/
theorem burn_to_fee_collector (bk bk' : Bank) (m : String) (amt : Coins) (ma fc : Addr)
    (hm : moduleAddr bk m = some ma) (hf : moduleAddr bk feeCollectorName = some fc) (hne : ma ≠ fc)
    (h : burnCoins bk m amt = .ok bk') :
    ∀ d, balOf bk'.bal fc d = balOf bk.bal fc d + sumNat amt d := by
  obtain ⟨sa, da, b1, hsa, hda, hsub, hbk⟩ := sendModuleToModule_ok bk bk' m feeCollectorName amt h
  rw [hm] at hsa
  rw [hf] at hda
  cases hsa
  cases hda
  intro d
  rw [hbk]
  exact (addCoins_self fc amt b1 d).trans (congrArg (· + sumNat amt d) (subCoins_other ma amt bk.bal b1 fc d hne hsub))

/-! ### 5b. The module-call path (received XIBC packet → Execute → system contract) -/

def RecvCall.wf (rc : RecvCall δ) : Bool :=
  match rc.call with
  | none => true
  | some nd => nd.wf

theorem executeAddr_notSys : notSys executeAddr := by
  constructor <;> decide

theorem recvEvm_logs (env : Env δ ν) (st : Evm) (rc : RecvCall δ) (evm' : Evm) (gl : List (GLog δ)) (code : Nat)
    (h : recvEvm env st rc = some (evm', gl, code)) :
    (gl = [] ∧ (code = 0 → rc.call = none)) ∨
    (code = 0 ∧ ∃ nd st1, rc.call = some nd ∧
      runNode env { self := executeAddr, sender := packetAddr } st1 nd = some (evm', gl)) := by
  unfold recvEvm at h
  revert h
  cases rc.reverts with
  | true => intro h; cases h
  | false =>
    cases rc.transferOk with
    | false => intro h; cases h; exact Or.inl ⟨rfl, fun h0 => absurd h0 (by decide)⟩
    | true =>
      cases rc.call with
      | none => intro h; cases h; exact Or.inl ⟨rfl, fun _ => rfl⟩
      | some nd =>
        intro h
        extract_lets st1 at h
        clear_value st1
        simp only [Bool.false_eq_true, Bool.not_true, if_false] at h
        cases hr : runNode env { self := executeAddr, sender := packetAddr } st1 nd with
        | none => rw [hr] at h; cases h; exact Or.inl ⟨rfl, fun h0 => absurd h0 (by decide)⟩
        | some r => rw [hr] at h; cases h; exact Or.inr ⟨rfl, nd, st1, rfl, hr⟩

theorem recvEvm_gok (env : Env δ ν) (st : Evm) (rc : RecvCall δ) (hwf : rc.wf = true) (evm' : Evm) (gl : List (GLog δ))
    (code : Nat) (h : recvEvm env st rc = some (evm', gl, code)) : ∀ g ∈ gl, GOK env g := by
  rcases recvEvm_logs env st rc evm' gl code h with ⟨hnil, _⟩ | ⟨_, nd, st1, hc, hr⟩
  · rw [hnil]; intro g hg; cases hg
  · rw [RecvCall.wf, hc] at hwf
    exact runNode_gok env nd _ st1 executeAddr_notSys hwf evm' gl hr

theorem callPacket_some (env : Env δ ν) (junk s : State ν) (rc : RecvCall δ) (evm' : Evm) (gl : List (GLog δ)) (code : Nat)
    (h : recvEvm env s.evm rc = some (evm', gl, code)) :
    callPacket env junk s rc =
      ((match (postTx env s.native (gl.map (·.log))).res with
        | .ok n' => .done { evm := evm', native := n' } code
        | .err _ => .failed junk
        | .panic _ => .panicked), (postTx env s.native (gl.map (·.log))).trace) := by
  rw [callPacket, h]
  dsimp only
  cases (postTx env s.native (gl.map (·.log))).res <;> rfl

theorem callPacket_done (env : Env δ ν) (junk s s' : State ν) (rc : RecvCall δ) (code : Nat) (tr : List Msg)
    (h : callPacket env junk s rc = (.done s' code, tr)) :
    ∃ evm' gl n', recvEvm env s.evm rc = some (evm', gl, code) ∧
      (postTx env s.native (gl.map (·.log))).res = .ok n' ∧ tr = (postTx env s.native (gl.map (·.log))).trace ∧
      s' = { evm := evm', native := n' } := by
  cases hevm : recvEvm env s.evm rc with
  | none => rw [callPacket, hevm] at h; cases h
  | some r =>
    obtain ⟨evm', gl, code'⟩ := r
    rw [callPacket_some env junk s rc evm' gl code' hevm] at h
    cases hres : (postTx env s.native (gl.map (·.log))).res with
    | ok n' => rw [hres] at h; cases h; exact ⟨evm', gl, n', rfl, hres, rfl, rfl⟩
    | err _ | panic _ => rw [hres] at h; cases h

theorem recvPacket_ok (env : Env δ ν) (junk : State ν) (c c' : Chain ν) (seq : Nat) (rc : RecvCall δ) (tr : List Msg)
    (h : recvPacket env junk c seq rc = (.ok c', tr)) :
    c'.receipts = seq :: c.receipts ∧
    ((callPacket env junk c.st rc = (.done c'.st 0, tr) ∧ c'.acks = (seq, 0) :: c.acks) ∨
     (∃ code, code ≠ 0 ∧ c'.acks = (seq, code) :: c.acks ∧ c'.st = c.st)) := by
  unfold recvPacket at h
  revert h
  cases c.receipts.contains seq with
  | true => intro h; cases h
  | false =>
    rw [if_neg Bool.false_ne_true]
    dsimp only
    cases callPacket env junk c.st rc with
    | mk cb tr' =>
      cases cb with
      | done s' code =>
        cases code with
        | zero => intro h; cases h; exact ⟨rfl, Or.inl ⟨rfl, rfl⟩⟩
        | succ k =>
          dsimp only
          rw [if_neg (Nat.succ_ne_zero k)]
          intro h; cases h; exact ⟨rfl, Or.inr ⟨k + 1, Nat.succ_ne_zero k, rfl, rfl⟩⟩
      | failed dirty => intro h; cases h; exact ⟨rfl, Or.inr ⟨1, Nat.succ_ne_zero 0, rfl, rfl⟩⟩
      | panicked => intro h; cases h

/-- Whatever the callback does and whatever a failing hook chain leaves on the context it ran on
(`junk`), a handled `MsgRecvPacket` writes the receipt and exactly one acknowledgement, and unless that acknowledgement
carries result code 0 the chain state (EVM state of Execute / Staking / helper contracts, minted vouchers, native
delegations, votes, balances) is exactly the state before. -/
theorem recv_atomic (env : Env δ ν) (junk : State ν) (c c' : Chain ν) (seq : Nat) (rc : RecvCall δ) (tr : List Msg)
    (h : recvPacket env junk c seq rc = (.ok c', tr)) :
    ∃ code, c'.acks = (seq, code) :: c.acks ∧ c'.receipts = seq :: c.receipts ∧ (code ≠ 0 → c'.st = c.st) := by
  obtain ⟨hrec, ⟨_, hack⟩ | ⟨code, _, hack, hst⟩⟩ := recvPacket_ok env junk c c' seq rc tr h
  · exact ⟨0, hack, hrec, fun hh => absurd rfl hh⟩
  · exact ⟨code, hack, hrec, fun _ => hst⟩

/-- The EVM part of the callback succeeded (Execute called the system contract, storage written,
vouchers minted) but an attributed native message fails ⇒ error acknowledgement (code 1), receipt, and *nothing* of the
callback survives — for every `junk` the un-branched `CallEVMWithData` may have left behind. -/
theorem recv_native_failure (env : Env δ ν) (junk : State ν) (c : Chain ν) (seq : Nat) (rc : RecvCall δ)
    (evm' : Evm) (gl : List (GLog δ)) (code : Nat) (e : String)
    (hfresh : c.receipts.contains seq = false)
    (hevm : recvEvm env c.st.evm rc = some (evm', gl, code))
    (hf : (runItems env c.st.native (expectedItems env (gl.map (·.log)))).res = .err e) :
    (recvPacket env junk c seq rc).1 = .ok { c with receipts := seq :: c.receipts, acks := (seq, 1) :: c.acks } := by
  rw [← executes_exactly_filtered] at hf
  rw [recvPacket, hfresh, if_neg Bool.false_ne_true]
  dsimp only
  rw [callPacket_some env junk c.st rc evm' gl code hevm, hf]

/-- a panic inside a hook leaves `RecvPacket`; `runTx` discards everything (no receipt, no acknowledgement). -/
theorem recv_panic_discards (env : Env δ ν) (junk : State ν) (c : Chain ν) (seq : Nat) (rc : RecvCall δ) (p : String)
    (h : (recvPacket env junk c seq rc).1 = .panic p) : (deliverRecv env junk c seq rc).1 = (c, .panicked) := by
  rw [deliverRecv]
  cases hr : recvPacket env junk c seq rc with
  | mk o tr =>
    rw [hr] at h
    cases h
    rfl

/-- An acknowledgement with code 0 means the callback's EVM state was committed and the
native modules executed exactly the system-contract calls made inside the callback — each once, in order (staking, then
governance), signed by the msg.sender of the contract frame (the Execute contract when the packet names the system
contract directly), with the call's own arguments. -/
theorem recv_success_attributed (env : Env δ ν) (hrt : RoundTrip env) (junk : State ν) (c c' : Chain ν) (seq : Nat)
    (rc : RecvCall δ) (hwf : rc.wf = true) (tr : List Msg)
    (h : recvPacket env junk c seq rc = (.ok c', tr)) (hack : c'.acks = (seq, 0) :: c.acks) :
    ∃ evm' gl, recvEvm env c.st.evm rc = some (evm', gl, 0) ∧ c'.st.evm = evm' ∧
      tr = (attributed .staking gl ++ attributed .gov gl).map (fun sc => msgOf sc.1 sc.2) := by
  obtain ⟨_, ⟨hcb, _⟩ | ⟨code, hcode, hack', _⟩⟩ := recvPacket_ok env junk c c' seq rc tr h
  · obtain ⟨evm', gl, n', hevm, hres, htr, hst⟩ := callPacket_done env junk c.st c'.st rc 0 tr hcb
    refine ⟨evm', gl, hevm, by rw [hst], htr.trans ?_⟩
    exact postTx_ok_attributed env hrt c.st.native n' gl (recvEvm_gok env c.st.evm rc hwf evm' gl 0 hevm) hres
  · rw [hack] at hack'
    cases hack'
    exact absurd rfl hcode

/-- the packet names the system contract itself: every executed message is signed by the Execute contract. -/
theorem recv_direct_call_signer (env : Env δ ν) (hrt : RoundTrip env) (junk : State ν) (c c' : Chain ν) (seq : Nat)
    (rc : RecvCall δ) (ig : Bool) (call : SysCall) (hcall : rc.call = some (.sys .call ig call)) (tr : List Msg)
    (h : recvPacket env junk c seq rc = (.ok c', tr)) (hack : c'.acks = (seq, 0) :: c.acks) :
    tr = [msgOf executeAddr call] ∧ (msgOf executeAddr call).signer = executeAddr := by
  have hwf : rc.wf = true := by rw [RecvCall.wf, hcall]; rfl
  obtain ⟨evm', gl, hevm, _, htr⟩ := recv_success_attributed env hrt junk c c' seq rc hwf tr h hack
  refine ⟨?_, msgOf_signer _ _⟩
  rcases recvEvm_logs env c.st.evm rc evm' gl 0 hevm with ⟨_, hnone⟩ | ⟨_, nd, st1, hc, hr⟩
  · rw [hnone rfl] at hcall; cases hcall
  · rw [hcall] at hc
    cases hc
    rw [origin_is_calling_frame] at hr
    cases hr
    rw [htr]
    cases hcc : call.contract <;> simp [attributed, hcc]

/-! ### 5c. Histories with restarts and discarded executions; second-instance frame properties -/

/-- a node restart (new application object over the same committed store) and a restart from an exported genesis are
the identity on everything the property talks about: helper-contract storage and the native staking / gov / bank state.
(The differential run compares the real dumps before / after; the adapter keeps no state of its own — its handler
tables are rebuilt by `NewHookAdapter`, which is what the restart operations exercise.) -/
def restart {ν : Type} (s : State ν) : State ν := s

theorem restart_identity {ν : Type} (s : State ν) : restart s = s := rfl

/-- operations of a history: a committed transaction, the same transaction on a context that is dropped
(Simulate / CheckTx / a failed multi-message transaction), a restart. -/
inductive HOp (δ : Type) where
  | tx (t : Tx δ)
  | dry (t : Tx δ)
  | restart

def HOp.wf : HOp δ → Bool
  | .tx t => t.wf
  | .dry t => t.wf
  | .restart => true

/-- state after the operation and the messages handed to the native modules *on the committed context*. -/
def stepH (env : Env δ ν) (s : State ν) : HOp δ → State ν × List Msg
  | .tx t => ((deliverTx env s t).1.1, (deliverTx env s t).2)
  | .dry _ => (s, [])
  | .restart => (restart s, [])

def runH (env : Env δ ν) (s : State ν) : List (HOp δ) → State ν × List Msg
  | [] => (s, [])
  | op :: rest =>
    let r := stepH env s op
    let r2 := runH env r.1 rest
    (r2.1, r.2 ++ r2.2)

/-- **discarded executions and restarts change nothing.** -/
theorem dry_restart_identity (env : Env δ ν) (s : State ν) (t : Tx δ) :
    (stepH env s (.dry t)).1 = s ∧ (stepH env s .restart).1 = s ∧
    runH env s [.dry t, .restart] = (s, []) := ⟨rfl, rfl, rfl⟩

/-- verdicts after a dry run / restart are the verdicts without it. -/
theorem runH_skip (env : Env δ ν) (s : State ν) (t : Tx δ) (rest : List (HOp δ)) :
    runH env s (.dry t :: rest) = runH env s rest ∧ runH env s (.restart :: rest) = runH env s rest := ⟨rfl, rfl⟩

/-- **signer_is_caller over whole histories** (transactions, dry runs, restarts in any order): every message that ever
reaches the native modules is a system-contract call signed by the msg.sender of the contract frame. -/
theorem history_signers (env : Env δ ν) (hrt : RoundTrip env) (ops : List (HOp δ)) :
    ∀ (s : State ν), (∀ op ∈ ops, op.wf = true) →
      ∀ m ∈ (runH env s ops).2, ∃ sender call, m = msgOf sender call ∧ m.signer = sender := by
  induction ops with
  | nil => intro s _ m hm; simp [runH] at hm
  | cons op rest ih =>
    intro s hwf m hm
    obtain ⟨hop, hrest⟩ := List.forall_mem_cons.mp hwf
    simp only [runH, List.mem_append] at hm
    rcases hm with hm | hm
    · cases op with
      | tx t =>
        obtain ⟨_, _, _, _, _, sender, call, _, h2, h3⟩ := signer_is_caller env hrt s t hop m hm
        exact ⟨sender, call, h2, h3⟩
      | dry _ | restart => simp [stepH] at hm
    · exact ih _ hrest m hm

/-- One step of a history: an operation that is not a successful transaction leaves the state as it was. -/
theorem history_step_atomic (env : Env δ ν) (s : State ν) (op : HOp δ)
    (h : ∀ t, op = .tx t → (deliverTx env s t).1.2 ≠ .ok) : (stepH env s op).1 = s := by
  cases op with
  | tx t => exact atomic env s t (h t rfl)
  | dry _ | restart => rfl

/-! #### (S) second instance: the concrete native model keys votes by (proposal, voter) and stake by (delegator, validator) -/

theorem alookup_cons {κ β : Type} [BEq κ] (k0 : κ) (v0 : β) (rest : List (κ × β)) (k' : κ) :
    alookup ((k0, v0) :: rest) k' = if (k0 == k') = true then some v0 else alookup rest k' := by
  unfold alookup
  rw [List.find?_cons]
  cases k0 == k' <;> rfl

theorem alookup_aset_ne {κ β : Type} [BEq κ] [LawfulBEq κ] (l : List (κ × β)) (k k' : κ) (v : β) (h : k ≠ k') :
    alookup (aset l k v) k' = alookup l k' := by
  fun_induction aset l k v with
  | case1 => rw [alookup_cons, if_neg (ne_true_of_eq_false (beq_false_of_ne h))]
  | case2 k0 v0 rest h0 =>
    have hk' : ¬ (k0 == k') = true := fun hh => h ((eq_of_beq h0).symm.trans (eq_of_beq hh))
    rw [alookup_cons, alookup_cons, if_neg hk', if_neg hk']
  | case3 k0 v0 rest h0 ih => rw [alookup_cons, alookup_cons, ih]

/-- a vote of `voter` on proposal `p` leaves every other (proposal, voter) entry — in particular the other proposal's
votes and other voters' votes on the same proposal — and all staking state untouched. -/
theorem vote_frame (cls : Bytes → ValClass) (n n' : Native) (voter : Addr) (p : Nat) (o : Int)
    (h : execMsg cls n (.vote voter p o) = .ok n') (p' : Nat) (voter' : Addr) (hne : (p, voter) ≠ (p', voter')) :
    alookup n'.votes (p', voter') = alookup n.votes (p', voter') ∧ n'.dels = n.dels ∧ n'.ubds = n.ubds ∧
      n'.reds = n.reds ∧ n'.bank = n.bank := by
  rw [execMsg] at h
  revert h
  cases alookup n.props p with
  | none => intro h; cases h
  | some active =>
    cases active with
    | false => intro h; cases h
    | true => intro h; cases h; exact ⟨alookup_aset_ne _ _ _ _ hne, rfl, rfl, rfl, rfl⟩

/-- a delegation of `del` to validator `i` leaves every other (delegator, validator) stake and all votes untouched. -/
theorem delegate_frame (cls : Bytes → ValClass) (n n' : Native) (del : Addr) (v : Bytes) (i amt : Nat)
    (hc : cls v = .known i) (h : execMsg cls n (.delegate del v amt) = .ok n')
    (del' : Addr) (j : Nat) (hne : (del, i) ≠ (del', j)) :
    alookup n'.dels (del', j) = alookup n.dels (del', j) ∧ n'.votes = n.votes ∧ n'.ubds = n.ubds ∧ n'.reds = n.reds := by
  rw [execMsg, hc] at h
  dsimp only at h
  by_cases hfunds : nbal n del < amt
  · rw [if_pos hfunds] at h; cases h
  · rw [if_neg hfunds] at h
    cases hpow : powerOverflow n (n.valTokens.getD i 0 + amt) with
    | true => rw [hpow, if_pos rfl] at h; cases h
    | false =>
      rw [hpow, if_neg Bool.false_ne_true] at h
      cases h
      exact ⟨alookup_aset_ne _ _ _ _ hne, rfl, rfl, rfl⟩

/-! ### 5d. Genesis: the provider of "the system address runs exactly Staking.sol / Gov.sol" -/

/-- The adapter's `InitGenesis` overwrites whatever account the
genesis document carries at the address — none, code-less, a `BaseAccount`, a contract with the genuine or with foreign
code, with or without storage: afterwards the account is an `EthAccount` whose code is the embedded genuine byte code. -/
theorem install_code_is_genuine_for_every_prior_account (genuine : Bytes) (prior : Option GenAccount) :
    (installCode genuine prior).code = genuine ∧ (installCode genuine prior).kind = .eth := ⟨rfl, rfl⟩

/-- after `adapter.Manager.InitGenesis` both system addresses run the genuine code, for every prior account map. -/
theorem genesis_runs_genuine (genuine : SysC → Bytes) (accts : Accounts) :
    RunsGenuine genuine (adapterInitGenesis genuine accts) := by
  intro c
  cases c
  · simp [codeAt, adapterInitGenesis, SysC.addr, installCode]
  · have h : govAddr ≠ stakingAddr := by decide
    simp [codeAt, adapterInitGenesis, SysC.addr, installCode, h]

/-- every other account is left alone. -/
theorem install_frame (genuine : SysC → Bytes) (accts : Accounts) (a : Addr) (h1 : a ≠ stakingAddr) (h2 : a ≠ govAddr) :
    adapterInitGenesis genuine accts a = accts a := by
  simp [adapterInitGenesis, h1, h2]

/-- `signer_is_caller` again, with `RunsGenuine` written next to it as an argument the proof does not use (its default
value is `genesis_runs_genuine`). That a `Node.sys` frame is the right description of a call to a system address only
when the address runs the genuine contract is a modelling assumption about `runNode`, stated in Model/Adapter.lean and
observed by the differential run after every `InitChain`; nothing in the Lean text links `runNode` to `RunsGenuine`.
What IS proved about genesis is `genesis_runs_genuine`, for every prior account map. -/
theorem signer_is_caller_from_genesis (genuine : SysC → Bytes) (accts0 : Accounts)
    (env : Env δ ν) (hrt : RoundTrip env) (s : State ν) (tx : Tx δ) (hwf : tx.wf = true)
    (_hcode : RunsGenuine genuine (adapterInitGenesis genuine accts0) := genesis_runs_genuine genuine accts0) :
    ∀ m ∈ (deliverTx env s tx).2, ∃ evm' gl, runEvm env s.evm tx = some (evm', gl) ∧
      ∃ g ∈ gl, ∃ sender call, g.origin = some (sender, call) ∧ m = msgOf sender call ∧ m.signer = sender :=
  signer_is_caller env hrt s tx hwf

/-- The variant of `installCode` that keeps a contract account it finds at the address ("do not burn another account
number on a restart from an export"). -/
def installKeep (genuine : Bytes) (prior : Option GenAccount) : GenAccount :=
  match prior with
  | some acc => if acc.kind = .eth ∧ acc.code ≠ [] then acc else installCode genuine prior
  | none => installCode genuine prior

/-- `genesis_runs_genuine` is not vacuous: `installKeep` does NOT establish it — a genesis document with a foreign contract
at the address keeps running the foreign code; `installCode` overwrites it. -/
example : (installKeep [1] (some { kind := .eth, code := [0xff], storage := [] })).code ≠ [1] := by decide
example : (installCode [1] (some { kind := .eth, code := [0xff], storage := [] })).code = [1] := by decide
example : (installCode [1] (some { kind := .base, code := [], storage := [] })).kind = .eth := by decide

/-! ### 6. Non-vacuity: concrete instances of the hypotheses and of every branch -/

namespace Ex
/-- data = what the decoder returns for it (the driver's instance); natives: a journal that rejects amount 13. -/
def env : Env (Outcome Event) (List Msg) :=
  { decode := fun _ d => d, encode := fun ev => .ok ev, routed := fun _ => true,
    exec := fun n m => match m with
      | .delegate _ _ 13 => .err "native failure"
      | m => .ok (n ++ [m]) }

def eoa : Addr := [0xaa]
def proxyA : Addr := [0xc1]
def val : Bytes := [0x76]
def s0 : State (List Msg) := { evm := [], native := [] }

/-- EOA → proxy —CALL→ Staking.delegate, then a look-alike LOG1 claiming the EOA, then DELEGATECALL Staking.delegate. -/
def tx1 : Tx (Outcome Event) :=
  { sender := eoa,
    root := .proxy .call false proxyA
      [ .sys .call false (.delegate val 5),
        .rawlog [topicOf .delegated] (.ok (.delegated eoa val (some 7))),
        .sys .dcall false (.delegate val 9) ] }

/-- same shape, but the native module rejects the message. -/
def tx2 : Tx (Outcome Event) :=
  { sender := eoa, root := .proxy .call false proxyA [ .sys .call false (.delegate val 13) ] }
end Ex

example : RoundTrip Ex.env := fun _ => rfl
example : Ex.tx1.wf = true := by decide +kernel
/-- `tx1` evaluated once; the two examples below look their facts up here. -/
theorem Ex.tx1_delivered : (deliverTx Ex.env Ex.s0 Ex.tx1).2 = [Msg.delegate Ex.proxyA Ex.val 5] ∧
    (deliverTx Ex.env Ex.s0 Ex.tx1).1.2 = .ok ∧ (deliverTx Ex.env Ex.s0 Ex.tx1).1.1.evm = [(Ex.proxyA, 1)] := by
  decide +kernel

/-- exactly one message, signed by the proxy (the caller of the system contract) — not by the EOA named in the
look-alike event, not by the frame that DELEGATECALLed the contract code. -/
example : (deliverTx Ex.env Ex.s0 Ex.tx1).2 = [Msg.delegate Ex.proxyA Ex.val 5] := Ex.tx1_delivered.1
example : (deliverTx Ex.env Ex.s0 Ex.tx1).1.2 = .ok ∧ (deliverTx Ex.env Ex.s0 Ex.tx1).1.1.evm = [(Ex.proxyA, 1)] :=
  Ex.tx1_delivered.2

/-- native failure: status `hookFail`, and the proxy's storage write is gone as well. -/
example : (deliverTx Ex.env Ex.s0 Ex.tx2).1.2 = .hookFail ∧ (deliverTx Ex.env Ex.s0 Ex.tx2).1.1.evm = [] := by decide +kernel

namespace Ex
/-- received packet: 40 vouchers minted, then Execute calls Staking.delegate directly. -/
def rcOk : RecvCall (Outcome Event) :=
  { transfer := some 40, transferOk := true, reverts := false, call := some (.sys .call false (.delegate val 5)) }
/-- same, but the native module rejects the message (amount 13). -/
def rcFail : RecvCall (Outcome Event) :=
  { transfer := some 40, transferOk := true, reverts := false, call := some (.sys .call false (.delegate val 13)) }
def chain0 : Chain (List Msg) := { st := s0, receipts := [], acks := [] }
/-- what a failing hook chain left on the context it ran on: arbitrary. -/
def junk : State (List Msg) := { evm := [([0xff], 99)], native := [.withdraw [0xee] [0xdd]] }
end Ex

example : Ex.rcOk.wf = true := by decide +kernel
/-- success: ack 0, vouchers minted, exactly one message, signed by the Execute contract. -/
example : (deliverRecv Ex.env Ex.junk Ex.chain0 1 Ex.rcOk).2 = [Msg.delegate executeAddr Ex.val 5] ∧
    (deliverRecv Ex.env Ex.junk Ex.chain0 1 Ex.rcOk).1.1.acks = [(1, 0)] ∧
    (deliverRecv Ex.env Ex.junk Ex.chain0 1 Ex.rcOk).1.1.st.evm = [(voucherKey, 40)] := by decide +kernel
/-- native failure: error ack, receipt, and neither the minted vouchers nor the junk of the un-branched call survive. -/
example : (deliverRecv Ex.env Ex.junk Ex.chain0 1 Ex.rcFail).1.1.acks = [(1, 1)] ∧
    (deliverRecv Ex.env Ex.junk Ex.chain0 1 Ex.rcFail).1.1.receipts = [1] ∧
    (deliverRecv Ex.env Ex.junk Ex.chain0 1 Ex.rcFail).1.1.st.evm = [] ∧
    (deliverRecv Ex.env Ex.junk Ex.chain0 1 Ex.rcFail).1.1.st.native = [] := by decide +kernel

namespace Ex
def bank : Bank :=
  { bal := [(([1], "stake"), 100), (([2], "stake"), 7)], supply := [("stake", 107)],
    modules := [("gov", [1]), (feeCollectorName, [2])] }
end Ex
example : (match burnCoins Ex.bank "gov" [("stake", 30)] with
    | .ok b => decide (balOf b.bal [1] "stake" = 70 ∧ balOf b.bal [2] "stake" = 37 ∧ b.supply = [("stake", 107)])
    | _ => false) = true := by decide +kernel
example : (match burnCoins Ex.bank "gov" [("stake", 101)] with | .err _ => true | _ => false) = true := by decide +kernel
example : (match burnCoins Ex.bank "nope" [("stake", 1)] with | .panic _ => true | _ => false) = true := by decide +kernel

end TM.Adapter
