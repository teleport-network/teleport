import TeleportModel.Model.Host
import TeleportModel.Generated.HostKeys
import TeleportModel.Generated.PrefixSites
import TeleportModel.Proofs.C19Host
import TeleportModel.Proofs.C19Cons
import TeleportModel.Proofs.C19Scan
/-
C19 — prefix-freeness of the key FAMILIES under range operations. Full keys are injective, but a range operation
(clear a client store, scan a path) works on a PREFIX: `clients/<a>/` must not be a prefix of any key under `clients/<b>/`.
That holds exactly because the per-client prefix ends with the separator and names contain no '/'; without the closing
separator it fails (`clients/x` is a prefix of `clients/x-2/…`). The guard fact — every prefix built from a variable-length
name ends with '/' — is an obligation over the regenerated inventory of all prefix / range sites of x/xibc and x/aggregate.
-/
namespace TM.C19
open TM TM.Host TM.Generated

/-- **client stores are prefix-free**: for '/'-free (in particular valid) names a ≠ b, the store prefix of `a` is not a
    prefix of any key of client `b` -/
theorem client_prefix_free (c : Consts) (a b k : Bytes) (ha : slash ∉ a) (hb : slash ∉ b) (hne : a ≠ b) :
    hasPrefix (clientStorePrefixOf c b ++ k) (clientStorePrefixOf c a) = false := by
  refine Bool.eq_false_iff.mpr fun h => ?_
  rw [hasPrefix_iff] at h
  simp only [clientStorePrefixOf, List.append_assoc, List.cons_append, List.nil_append,
    List.prefix_append_right_inj, List.cons_prefix_cons, true_and] at h
  exact hne (prefix_name a b [] k ha hb h).1

/-- … while every key of client `a` does start with its store prefix -/
theorem client_prefix_own (c : Consts) (a k : Bytes) :
    hasPrefix (clientStorePrefixOf c a ++ k) (clientStorePrefixOf c a) = true := hasPrefix_append _ _

/-- **the counter-lemma**: WITHOUT the closing separator the prefix of `a` covers every client whose name extends `a` -/
theorem unterminated_client_prefix_overlaps (c : Consts) (a ext k : Bytes) :
    hasPrefix (clientStorePrefixOf c (a ++ ext) ++ k) (c.clientStorePrefix ++ [slash] ++ a) = true :=
  (hasPrefix_iff _ _).mpr ⟨ext ++ slash :: k, by simp only [clientStorePrefixOf, List.append_assoc, List.cons_append, List.nil_append]⟩

/-- witness: `clients/x` is a prefix of the client-state key of `x-2` -/
theorem unterminated_client_prefix_witness :
    hasPrefix (clientStorePrefixOf GC [120, 45, 50] ++ GC.clientState) (GC.clientStorePrefix ++ [slash] ++ [120]) = true := by decide +kernel

/-- **frame**: clearing the store of client `a` (range delete over its separator-terminated prefix) leaves every entry of
    every other client `b` in place, byte for byte, and removes every entry of `a` -/
theorem client_clear_frame {α} (c : Consts) (a : Bytes) (ha : slash ∉ a) (st : List (Bytes × α)) :
    (∀ b k v, slash ∉ b → b ≠ a → (clientStorePrefixOf c b ++ k, v) ∈ st →
        (clientStorePrefixOf c b ++ k, v) ∈ storeClear (clientStorePrefixOf c a) st) ∧
    (∀ k v, (clientStorePrefixOf c a ++ k, v) ∉ storeClear (clientStorePrefixOf c a) st) := by
  constructor
  · intro b k v hb hne hm
    exact List.mem_filter.mpr ⟨hm, congrArg not (client_prefix_free c a b k ha hb (Ne.symm hne))⟩
  · intro k v hm
    simp only [storeClear, List.mem_filter, client_prefix_own] at hm
    simp at hm

/-- entries outside the cleared prefix keep their order and values: the cleared store is the filtered store -/
theorem storeClear_eq {α} (p : Bytes) (st : List (Bytes × α)) :
    storeClear p st = st.filter (fun kv => !hasPrefix kv.1 p) := rfl

/-! ### packet keys with decimal sequences: injective, but NOT prefix-free -/

/-- the key of sequence 1 is a proper prefix of the key of sequence 10 (same path): a range operation over a FULL packet
    key as prefix would also cover sequences 10–19, 100–199, … — full keys may only be used for point access -/
theorem sequence_keys_not_prefix_free (p0 m0 a b : Bytes) :
    hasPrefix (keyOf p0 m0 a b 10) (keyOf p0 m0 a b 1) = true ∧ keyOf p0 m0 a b 10 ≠ keyOf p0 m0 a b 1 := by
  have h1 : toDec 1 = [49] := by decide +kernel
  have h10 : toDec 10 = [49, 48] := by decide +kernel
  rw [keyOf_eq, keyOf_eq, h1, h10]
  exact ⟨(hasPrefix_iff _ _).mpr ((List.prefix_append_right_inj _).mpr (by decide)),
    fun h => absurd (List.append_cancel_left h) (by decide)⟩

/-- … whereas the per-path prefix `…/sequences` followed by '/' separates paths (`bypath_prefix_iff`) and the families
    (`family_prefixes_disjoint`); witness on the generated commitment key -/
theorem sequence_prefix_witness :
    (render HostKeys.packetCommitmentKey [.s [97, 98, 99], .s [120, 121, 122], .n 1]).bind (fun k1 =>
      (render HostKeys.packetCommitmentKey [.s [97, 98, 99], .s [120, 121, 122], .n 10]).map (fun k10 => hasPrefix k10 k1)) = some true := by
  decide +kernel

/-- every prefix that is built from a variable-length component ends with the separator -/
theorem prefix_sites_terminated : ∀ s ∈ PrefixSites.sites, (s.kind = .sprintf ∨ s.kind = .concat) → s.terminated = true := by decide +kernel

/-- no site has a prefix argument of a shape the translator cannot classify -/
theorem prefix_sites_classified : ∀ s ∈ PrefixSites.sites, s.kind ≠ .other := by decide +kernel

/-- every site is in the expected inventory (props/C19.json "prefix_sites"); a new or changed site is named by gofacts -/
theorem prefix_sites_known : ∀ s ∈ PrefixSites.sites, s.known = true := by decide +kernel

/-- the per-client store prefix the keeper builds (`ClientStore`: "%s/%s/") is the one the theorems are about -/
theorem clientStore_site_present : PrefixSites.sites.any (fun s =>
    s.id == "x/xibc/core/client/keeper/keeper.go:ClientStore:prefix.NewStore:clientPrefix" && s.kind == .sprintf && s.terminated) = true := by
  -- the row is looked up by its kind, wherever it stands in the table; its id is then the literal itself
  have hs : (PrefixSites.sites.find? (fun s => s.kind == .sprintf && s.terminated)).isSome = true := by decide +kernel
  refine List.any_eq_true.mpr ⟨_, List.mem_of_find?_eq_some (Option.some_get hs).symm, ?_⟩
  simp only [Bool.and_eq_true, beq_iff_eq]
  exact ⟨⟨rfl, rfl⟩, rfl⟩

/-! ### non-vacuity -/
example : hasPrefix (clientStorePrefixOf GC [120, 45, 50] ++ GC.clientState) (clientStorePrefixOf GC [120]) = false := by decide +kernel

end TM.C19
