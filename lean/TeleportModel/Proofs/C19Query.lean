import TeleportModel.Model.Host
import TeleportModel.Generated.HostKeys
import TeleportModel.Proofs.C19Host
import TeleportModel.Proofs.C19Cons
/-
C19 — the query path reads keys back too. The client gRPC `ConsensusStates` handler walks the prefix store
"clients/<name>/consensusStates/" and must tell bare consensus-state keys (exactly the 16 raw height bytes) from metadata
stored below them ("<16 bytes>/processedTime"). Recognising the bare key BY ITS LENGTH returns every height — the 16 bytes may
contain 0x2f; recognising metadata by "contains '/'", as the handler did before fix c6fe61b of /repo, drops heights 47, 303, … (the F2 pattern).
-/
namespace TM.C19
open TM TM.Host TM.Generated

/-- **every consensus-state key is returned at the height it was written for**, for ALL uint64 revisions and heights -/
theorem consensus_query_complete (r h : UInt64) : consQueryKey (be8 r ++ be8 h) = some (r, h) := by
  simp [consQueryKey, be8_length, ofBE_be8]

/-- metadata stored below a consensus-state key (a non-empty suffix after the 16 bytes) is skipped -/
theorem consensus_query_skips_metadata (r h : UInt64) (suffix : Bytes) (hs : suffix ≠ []) :
    consQueryKey (be8 r ++ be8 h ++ suffix) = none := by
  have : 0 < suffix.length := List.length_pos_iff.mpr hs
  exact if_pos (by simp only [List.length_append, be8_length]; omega)

/-- the whole result: every written height is among the hits of the relative keys, whatever else the prefix store holds -/
theorem consensus_query_returns_written (rels : List Bytes) (r h : UInt64) (hm : be8 r ++ be8 h ∈ rels) :
    (r, h) ∈ rels.filterMap consQueryKey := by
  rw [List.mem_filterMap]
  exact ⟨_, hm, consensus_query_complete r h⟩

/-- and nothing else: every hit is the height of a 16-byte key of the store -/
theorem consensus_query_only_written (rels : List Bytes) (x : UInt64 × UInt64) (hx : x ∈ rels.filterMap consQueryKey) :
    ∃ k ∈ rels, k.length = 16 ∧ consQueryKey k = some x := by
  obtain ⟨k, hk, he⟩ := List.mem_filterMap.mp hx
  by_cases hl : k.length = 16
  · exact ⟨k, hk, hl, he⟩
  · rw [consQueryKey, if_pos hl] at he; cases he

/-- the defect as a witness: the 16 key bytes of height 0-47 contain '/', so a "contains '/'" metadata test drops it -/
theorem slash_filter_drops_height_47 : (be8 0 ++ be8 47).contains slash = true ∧ (be8 1 ++ be8 303).contains slash = true := by
  decide +kernel

/-- the relative key the handler sees for (r, h) is the tail of the generated consensus-state key template -/
theorem consensus_query_key_is_generated (r h : UInt64) :
    render HostKeys.consensusStateKey [.h r h] = some (GC.consensusStatePrefix ++ [slash] ++ (be8 r ++ be8 h)) :=
  render_relCons _ GC r h relConsKey_shape

end TM.C19
