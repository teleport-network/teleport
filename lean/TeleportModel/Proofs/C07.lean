import TeleportModel.Model.TmClient
import TeleportModel.Lemmas.Outcome
/-
C07 — the Tendermint client trusts only sufficiently signed, fresh, newer headers (model: `Model/TmClient.lean`).

"Signed" is read semantically (`signedPower`): the voting power of those entries of a validator set under whose
public key some for-block signature of the commit verifies — every entry of the set is counted at most once.
-/
namespace TM.TmClient
open TM

theorem require_ok {c : Bool} {s : String} {u : Unit} : require c s = .ok u ↔ c = true := by
  unfold require; cases c <;> simp

theorem require_bind_ok {β} {c : Bool} {s : String} {f : Unit → Outcome β} {b : β}
    (h : (require c s >>= f) = .ok b) : c = true ∧ f () = .ok b := by
  cases c
  · nomatch h
  · exact ⟨rfl, h⟩

theorem of_not_decide {p : Prop} [Decidable p] (h : (!decide p) = true) : ¬ p := by
  simpa using h

theorem pure_ok {α} {a b : α} : (pure a : Outcome α) = .ok b ↔ a = b := by
  simp [pure]

/-- established by `valSetFromProto` (`valSetFromProto_ok`); assumed by the two soundness theorems of the commit loops -/
def NonNeg (vs : List Validator) : Prop := ∀ v ∈ vs, 0 ≤ v.power

theorem nonNeg_cons {v : Validator} {vs : List Validator} : NonNeg (v :: vs) ↔ 0 ≤ v.power ∧ NonNeg vs :=
  List.forall_mem_cons

theorem totalOf_nonneg {vs : List Validator} (h : NonNeg vs) : 0 ≤ totalOf vs := by
  induction vs with
  | nil => exact Int.le_refl 0
  | cons v vs ih => exact Int.add_nonneg (nonNeg_cons.mp h).1 (ih (nonNeg_cons.mp h).2)

theorem wsum_nonneg {p : Nat → Validator → Bool} {k : Nat} {vs : List Validator} (h : NonNeg vs) :
    0 ≤ wsum p k vs := by
  induction vs generalizing k with
  | nil => exact Int.le_refl 0
  | cons v vs ih =>
    have hv : 0 ≤ if p k v then v.power else 0 := by
      split
      · exact (nonNeg_cons.mp h).1
      · exact Int.le_refl 0
    exact Int.add_nonneg hv (ih (nonNeg_cons.mp h).2)

theorem wsum_congr (p q : Nat → Validator → Bool) (k : Nat) (vs : List Validator)
    (h : ∀ i v, k ≤ i → p i v = q i v) : wsum p k vs = wsum q k vs := by
  induction vs generalizing k with
  | nil => rfl
  | cons v vs ih =>
    simp only [wsum, h k v (Nat.le_refl k), ih (k + 1) fun i w hi => h i w (Nat.le_of_succ_le hi)]

theorem wsum_remove {p q : Nat → Validator → Bool} (k j : Nat) {vs : List Validator} {v : Validator}
    (hj : vs[j]? = some v) (hp : p (k + j) v = true) (hq : q (k + j) v = false)
    (hpq : ∀ i w, i ≠ k + j → p i w = q i w) : wsum p k vs = v.power + wsum q k vs := by
  induction vs generalizing k j with
  | nil => nomatch hj
  | cons w vs ih =>
    cases j with
    | zero =>
      obtain rfl : w = v := Option.some.inj hj
      rw [Nat.add_zero] at hp hq hpq
      simp only [wsum, hp, hq, if_true, Bool.false_eq_true, if_false, Int.zero_add]
      rw [wsum_congr p q (k + 1) vs fun i u hi => hpq i u (Nat.ne_of_gt hi)]
    | succ j =>
      rw [← Nat.add_assoc, Nat.add_right_comm] at hp hq hpq
      simp only [wsum, hpq k w (Nat.ne_of_lt (Nat.lt_add_right j (Nat.lt_succ_self k))), ih (k + 1) j hj hp hq hpq]
      exact Int.add_left_comm _ _ _

theorem wsum_shift (f : Validator → Bool) (k k' : Nat) (vs : List Validator) :
    wsum (fun _ v => f v) k vs = wsum (fun _ v => f v) k' vs := by
  induction vs generalizing k k' with
  | nil => rfl
  | cons v vs ih => simp only [wsum]; rw [ih (k + 1) (k' + 1)]

theorem signedPower_cons (env : Env) (cid : Bytes) (c : Commit) (v : Validator) (vs : List Validator) :
    signedPower env cid c (v :: vs) =
      (if signedBy env cid c v.key then v.power else 0) + signedPower env cid c vs := by
  unfold signedPower
  simp only [wsum]
  rw [wsum_shift (fun v => signedBy env cid c v.key) (0 + 1) 0]

theorem signedPower_nonneg {env : Env} {cid : Bytes} {c : Commit} {vs : List Validator} (h : NonNeg vs) :
    0 ≤ signedPower env cid c vs := wsum_nonneg h

theorem signedPower_le_cons {env : Env} {cid : Bytes} {c : Commit} {v : Validator} {vs : List Validator}
    (h : NonNeg (v :: vs)) : signedPower env cid c vs ≤ signedPower env cid c (v :: vs) := by
  rw [signedPower_cons]
  split
  · exact Int.le_add_of_nonneg_left (nonNeg_cons.mp h).1
  · exact Int.le_of_eq (Int.zero_add _).symm

theorem anySig_of_drop {env : Env} {cid : Bytes} {c : Commit} {key : Nat} (k j : Nat) {l ss : List CommitSig}
    {s : CommitSig} (hj : l.drop j = s :: ss) (hf : s.flag = .commit) (hv : env.sigValid cid c (j + k) key = true) :
    anySig env cid c key k l = true := by
  induction j generalizing k l with
  | zero =>
    obtain rfl : l = s :: ss := hj
    rw [Nat.zero_add] at hv
    simp only [anySig, hf, hv, decide_true, Bool.and_self, Bool.true_or]
  | succ j ih =>
    cases l with
    | nil => nomatch hj
    | cons x l =>
      rw [Nat.add_right_comm] at hv
      simp only [anySig, ih (k + 1) hj hv, Bool.or_true]

theorem drop_tail {α} {l : List α} {i : Nat} {s : α} {ss : List α} (h : l.drop i = s :: ss) : l.drop (i + 1) = ss := by
  rw [← List.tail_drop, h]
  rfl

theorem signedBy_of_step {env : Env} {cid : Bytes} {c : Commit} {key i : Nat} {s : CommitSig} {ss : List CommitSig}
    (hs : c.sigs.drop i = s :: ss) (hf : ¬ s.flag ≠ .commit) (hv : ¬ env.sigValid cid c i key = false) :
    signedBy env cid c key = true :=
  anySig_of_drop 0 i hs (Decidable.not_not.mp hf) (eq_true_of_ne_false hv)

/-- `hs`: both loops walk `c.sigs` with the position `i` alongside, so what is left at `i` is `c.sigs.drop i`. -/
theorem lightLoop_sound {env : Env} {cid : Bytes} {c : Commit} {needed : Int} {i : Nat} {t : Int}
    {vs : List Validator} {ss : List CommitSig} (hnn : NonNeg vs) (hs : c.sigs.drop i = ss)
    (h : lightLoop env cid c needed i t vs ss = .ok ()) : needed < t + signedPower env cid c vs := by
  fun_induction lightLoop env cid c needed i t vs ss with
  | case1 i t v vs s ss hf ih =>
    exact Int.lt_of_lt_of_le (ih (nonNeg_cons.mp hnn).2 (drop_tail hs) h)
      (Int.add_le_add_left (signedPower_le_cons hnn) t)
  | case2 => nomatch h
  | case3 i t v vs s ss hf hval t' hgt =>
    rw [signedPower_cons, if_pos (signedBy_of_step hs hf hval), ← Int.add_assoc]
    exact Int.lt_of_lt_of_le hgt (Int.le_add_of_nonneg_right (signedPower_nonneg (nonNeg_cons.mp hnn).2))
  | case4 i t v vs s ss hf hval t' hgt ih =>
    rw [signedPower_cons, if_pos (signedBy_of_step hs hf hval), ← Int.add_assoc]
    exact ih (nonNeg_cons.mp hnn).2 (drop_tail hs) h
  | case5 => nomatch h

/-- **`VerifyCommitLight` is sound**: success means that validators holding more than two thirds of the
    total power of the set have a valid for-block signature in the commit (each entry counted once). -/
theorem commitLight_sound (env : Env) (cid : Bytes) (vs : List Validator) (height : Int) (c : Commit)
    (hnn : NonNeg vs)
    (h : verifyCommitLight env cid vs (totalOf vs) height c = .ok ()) :
    3 * signedPower env cid c vs > 2 * totalOf vs ∧ vs.length = c.sigs.length ∧ height = c.height := by
  simp only [verifyCommitLight, ite_err_eq_ok, Decidable.not_not] at h
  obtain ⟨hlen, hheight, h⟩ := h
  have hsp := lightLoop_sound hnn rfl h
  rw [Int.zero_add, Int.ediv_lt_iff_lt_mul (by decide), Int.mul_comm, Int.mul_comm _ 3] at hsp
  exact ⟨hsp, hlen, hheight⟩

theorem findAddr_spec (a : Nat) (k : Nat) (vs : List Validator) (vi : Nat) (v : Validator)
    (h : findAddr a k vs = some (vi, v)) : ∃ j, vi = k + j ∧ vs[j]? = some v ∧ v.addr = a := by
  induction vs generalizing k with
  | nil => nomatch h
  | cons w vs ih =>
    rw [findAddr] at h
    by_cases hw : w.addr = a
    · rw [if_pos hw] at h
      obtain ⟨rfl, rfl⟩ : k = vi ∧ w = v := Prod.mk.inj (Option.some.inj h)
      exact ⟨0, rfl, rfl, hw⟩
    · rw [if_neg hw] at h
      obtain ⟨j, rfl, hj, ha⟩ := ih (k + 1) h
      exact ⟨j + 1, Nat.add_right_comm k 1 j, hj, ha⟩

theorem findAddr_zero {a : Nat} {vs : List Validator} {vi : Nat} {v : Validator}
    (h : findAddr a 0 vs = some (vi, v)) : vs[vi]? = some v := by
  obtain ⟨j, rfl, hj, _⟩ := findAddr_spec a 0 vs vi v h
  rwa [Nat.zero_add]

/-- signed power of `vals` that the trusting loop has not tallied yet: the validators at positions outside `seen` -/
def unclaimed (env : Env) (cid : Bytes) (c : Commit) (vals : List Validator) (seen : List Nat) : Int :=
  wsum (fun i v => !decide (i ∈ seen) && signedBy env cid c v.key) 0 vals

theorem unclaimed_nil (env : Env) (cid : Bytes) (c : Commit) (vals : List Validator) :
    unclaimed env cid c vals [] = signedPower env cid c vals := by
  simp only [unclaimed, signedPower, List.not_mem_nil, decide_false, Bool.not_false, Bool.true_and]

theorem unclaimed_cons {env : Env} {cid : Bytes} {c : Commit} {vals : List Validator} {seen : List Nat}
    {j : Nat} {v : Validator} (hj : vals[j]? = some v) (hnew : j ∉ seen) (hsb : signedBy env cid c v.key = true) :
    unclaimed env cid c vals seen = v.power + unclaimed env cid c vals (j :: seen) := by
  apply wsum_remove 0 j hj
  · simp only [Nat.zero_add, hnew, hsb, decide_false, Bool.not_false, Bool.and_self]
  · simp only [Nat.zero_add, List.mem_cons_self, decide_true, Bool.not_true, Bool.false_and]
  · intro i w hi
    rw [Nat.zero_add] at hi
    simp only [List.mem_cons, hi, false_or]

/-- Invariant of the trusting loop: the tally plus the signed power not yet claimed exceeds `needed` on every successful
    path. The double-vote test is what makes each tallied position a new one, so its power can be moved out of the
    unclaimed part (`unclaimed_cons`). -/
theorem trustLoop_sound {env : Env} {cid : Bytes} {c : Commit} {vals : List Validator} {needed : Int}
    (hnn : NonNeg vals) {i : Nat} {t : Int} {seen : List Nat} {ss : List CommitSig} (hs : c.sigs.drop i = ss)
    (h : trustLoop env cid c vals needed i t seen ss = .ok ()) : needed < t + unclaimed env cid c vals seen := by
  fun_induction trustLoop env cid c vals needed i t seen ss with
  | case1 => nomatch h
  | case2 i t seen s ss hf ih => exact ih (drop_tail hs) h
  | case3 i t seen s ss hf hfa ih => exact ih (drop_tail hs) h
  | case4 => nomatch h
  | case5 => nomatch h
  | case6 i t seen s ss hf vi v hfa hnew hval t' hgt =>
    rw [unclaimed_cons (findAddr_zero hfa) hnew (signedBy_of_step hs hf hval), ← Int.add_assoc]
    exact Int.lt_of_lt_of_le hgt (Int.le_add_of_nonneg_right (wsum_nonneg hnn))
  | case7 i t seen s ss hf vi v hfa hnew hval t' hgt ih =>
    rw [unclaimed_cons (findAddr_zero hfa) hnew (signedBy_of_step hs hf hval), ← Int.add_assoc]
    exact ih (drop_tail hs) h

/-- the trust level fits `int64` (numerator and denominator are `uint64` in the client state and are
    converted with `int64(…)` by the library) -/
def TrustLevelInt64 (num den : Nat) : Prop := (num : Int) < two63 ∧ 0 < den ∧ (den : Int) < two63

theorem wrap64_id {x : Int} (h0 : 0 ≤ x) (h1 : x < two63) : wrap64 x = x := by
  have h2 : x + two63 < two64 := Int.add_lt_add_right h1 two63
  rw [wrap64, Int.emod_eq_of_lt (Int.add_nonneg h0 (by decide)) h2, Int.add_sub_cancel]

theorem toU64_of_nonneg {x : Int} (h0 : 0 ≤ x) (h1 : x < two63) : (toU64 x : Int) = x := by
  rw [toU64, Int.emod_eq_of_lt h0 (Int.lt_trans h1 (by decide)), Int.toNat_of_nonneg h0]

theorem safeMul_some {a b m : Int} (h : safeMul a b = some m) : m = a * b := by
  rw [safeMul] at h
  by_cases h0 : a = 0 ∨ b = 0
  · rw [if_pos h0] at h
    obtain rfl := Option.some.inj h
    rcases h0 with rfl | rfl
    · exact (Int.zero_mul b).symm
    · exact (Int.mul_zero a).symm
  · rw [if_neg h0] at h
    exact (Option.some.inj (Option.ite_none_left_eq_some.mp h).2).symm

/-- **`VerifyCommitLightTrusting` is sound**: success means that validators of the (trusted) set holding more than
    `num/den` of its total power have a valid for-block signature in the commit; no entry is counted twice. -/
theorem commitTrusting_sound (env : Env) (cid : Bytes) (vs : List Validator) (c : Commit) (num den : Nat)
    (hnn : NonNeg vs) (htl : TrustLevelInt64 num den)
    (h : verifyCommitLightTrusting env cid vs (totalOf vs) c num den = .ok ()) :
    (den : Int) * signedPower env cid c vs > (num : Int) * totalOf vs := by
  obtain ⟨hn, hd0, hd⟩ := htl
  rw [verifyCommitLightTrusting, ite_err_eq_ok, wrap64_id (Int.natCast_nonneg num) hn,
    wrap64_id (Int.natCast_nonneg den) hd] at h
  cases hm : safeMul (totalOf vs) num <;> rw [hm] at h
  · nomatch h.2
  have hsp := trustLoop_sound hnn rfl h.2
  rw [Int.zero_add, unclaimed_nil, safeMul_some hm,
    Int.tdiv_eq_ediv_of_nonneg (Int.mul_nonneg (totalOf_nonneg hnn) (Int.natCast_nonneg num)),
    Int.ediv_lt_iff_lt_mul (Int.natCast_pos.mpr hd0)] at hsp
  rw [Int.mul_comm den, Int.mul_comm num]
  exact hsp

/-! ### validator-set conversion establishes what the soundness theorems assume -/

theorem clip64_of_le {x : Int} (h0 : 0 ≤ x) (h : ¬ clip64 x > maxTotalVotingPower) : clip64 x = x := by
  unfold clip64 at h ⊢
  by_cases h1 : x > maxInt64
  · rw [if_pos h1] at h
    exact absurd (by decide) h
  · rw [if_neg h1, if_neg (Int.not_lt.mpr (Int.le_trans (by decide) h0))]

theorem totalPowerAux_ok {vs : List Validator} {s t : Int} (hs : 0 ≤ s) (hnn : NonNeg vs)
    (h : totalPowerAux s vs = .ok t) : t = s + totalOf vs := by
  induction vs generalizing s with
  | nil => exact (Outcome.ok.inj h).symm.trans (Int.add_zero s).symm
  | cons v vs ih =>
    have hsv : 0 ≤ s + v.power := Int.add_nonneg hs (nonNeg_cons.mp hnn).1
    simp only [totalPowerAux, ite_panic_eq_ok] at h
    rw [clip64_of_le hsv h.1] at h
    rw [ih hsv (nonNeg_cons.mp hnn).2 h.2, totalOf, Int.add_assoc]

theorem valSetFromProto_ok (p : ValSetP) (vs : List Validator) (total : Int)
    (h : valSetFromProto p = .ok (vs, total)) :
    vs = p.vals ∧ NonNeg vs ∧ total = totalOf vs ∧ vs ≠ [] := by
  obtain ⟨_, h⟩ := require_bind_ok h
  obtain ⟨_, h⟩ := require_bind_ok h
  obtain ⟨_, h⟩ := require_bind_ok h
  obtain ⟨t, ht, h⟩ := bind_eq_ok.mp h
  obtain ⟨hne, h⟩ := require_bind_ok h
  obtain ⟨hall, h⟩ := require_bind_ok h
  obtain ⟨_, h⟩ := require_bind_ok h
  obtain ⟨rfl, rfl⟩ := Prod.mk.inj (pure_ok.mp h)
  have hnn : NonNeg p.vals := fun v hv =>
    of_decide_eq_true (Bool.and_eq_true_iff.mp (List.all_eq_true.mp hall v hv)).1
  refine ⟨rfl, hnn, ?_, ?_⟩
  · rw [totalPowerAux_ok (Int.le_refl 0) hnn ht, Int.zero_add]
  · intro he
    rw [he] at hne
    nomatch hne

theorem Height.le_refl {a : Height} : a ≤ a := Or.inr rfl

theorem Height.lt_irrefl {a : Height} (h : a < a) : False :=
  h.elim (Nat.lt_irrefl _) fun h => Nat.lt_irrefl _ h.2

theorem Height.lt_trans {a b c : Height} (h1 : a < b) (h2 : b < c) : a < c := by
  rcases h1 with h1 | ⟨e1, h1⟩ <;> rcases h2 with h2 | ⟨e2, h2⟩
  · exact Or.inl (Nat.lt_trans h1 h2)
  · exact Or.inl (e2 ▸ h1)
  · exact Or.inl (e1 ▸ h2)
  · exact Or.inr ⟨e1.trans e2, Nat.lt_trans h1 h2⟩

theorem Height.le_trans {a b c : Height} (h1 : a ≤ b) (h2 : b ≤ c) : a ≤ c := by
  rcases h1 with h1 | rfl
  · rcases h2 with h2 | rfl
    · exact Or.inl (Height.lt_trans h1 h2)
    · exact Or.inl h1
  · exact h2

theorem Height.not_lt {a b : Height} : ¬ a < b ↔ b ≤ a := by
  constructor
  · intro h
    obtain ⟨ar, ah⟩ := a
    obtain ⟨br, bh⟩ := b
    rcases Nat.lt_trichotomy br ar with hr | rfl | hr
    · exact Or.inl (Or.inl hr)
    · rcases Nat.lt_trichotomy bh ah with hh | rfl | hh
      · exact Or.inl (Or.inr ⟨rfl, hh⟩)
      · exact Or.inr rfl
      · exact absurd (Or.inr ⟨rfl, hh⟩) h
    · exact absurd (Or.inl hr) h
  · rintro (hlt | rfl) hab
    · exact Height.lt_irrefl (Height.lt_trans hlt hab)
    · exact Height.lt_irrefl hab

theorem Height.le_max_left {a b : Height} : a ≤ Height.max a b := by
  unfold Height.max
  split
  · rename_i h; exact Or.inl h
  · exact Height.le_refl

theorem lookup_erase_ne {α} {h k : Height} {m : List (Height × α)} (hne : k ≠ h) :
    lookup k (erase h m) = lookup k m := by
  induction m with
  | nil => rfl
  | cons x m ih =>
    obtain ⟨k', v⟩ := x
    by_cases h1 : k' = h
    · subst h1
      simp [erase, lookup, Ne.symm hne, ih]
    · by_cases h2 : k' = k <;> simp [erase, lookup, h1, h2, hne, ih]

theorem lookup_erase_self {α} {h : Height} {m : List (Height × α)} : lookup h (erase h m) = none := by
  induction m with
  | nil => rfl
  | cons x m ih =>
    obtain ⟨k', v⟩ := x
    by_cases h1 : k' = h <;> simp [erase, lookup, h1, ih]

theorem lookup_insert_self {α} {h : Height} {v : α} {m : List (Height × α)} : lookup h (insert h v m) = some v := by
  simp [insert, lookup]

theorem lookup_insert_ne {α} {h k : Height} {v : α} {m : List (Height × α)} (hne : k ≠ h) :
    lookup k (insert h v m) = lookup k m := by
  simp only [insert, lookup]
  rw [if_neg (fun e => hne e.symm)]
  exact lookup_erase_ne hne

/-- the two headers are adjacent, as `light.Verify` decides it (int64 arithmetic on the heights) -/
def Adjacent (hd : Header) : Prop := hd.sh.height = wrap64 (wrap64 hd.trustedHeight.h + 1)

/-- Everything `checkValidity` has established when it lets a header through. -/
structure Valid (env : Env) (cs : ClientState) (tc : ConsState) (hd : Header) (now : Int) (hh : Height) : Prop where
  /-- the header's height: revision parsed from its chain id, height of the block -/
  height_eq : headerHeight hd = .ok hh
  height_pos : 0 < hd.sh.height
  /-- the supplied trusted validators hash to the next-validators hash stored at the trusted height -/
  trusted_hash : env.valsHash hd.trustedVals.vals = tc.nextValsHash
  trusted_nonneg : NonNeg hd.trustedVals.vals
  /-- same revision, strictly newer -/
  same_rev : hh.rev = hd.trustedHeight.rev
  newer : hd.trustedHeight < hh
  /-- the header is for the client's chain (at the header's revision) -/
  chain : hd.sh.chainId = effChainId cs hh.rev
  /-- freshness: trusted state within the trusting period, header time after it and within the clock drift -/
  not_expired : tc.time + cs.trustingPeriod > now
  time_after : tc.time < hd.sh.time
  time_drift : hd.sh.time < now + cs.maxClockDrift
  /-- the header's own validator set is the one it commits to -/
  vals_hash : env.valsHash hd.vals.vals = hd.sh.valsHash
  vals_nonneg : NonNeg hd.vals.vals
  /-- the commit is a commit for this very header -/
  commit : ∃ c, hd.commit = some c ∧ c.height = hd.sh.height ∧ c.blockHash = env.headerHash hd.sh ∧
    (Adjacent hd → hd.sh.valsHash = tc.nextValsHash) ∧
    (¬ Adjacent hd → TrustLevelInt64 cs.tlNum cs.tlDen →
        (cs.tlDen : Int) * signedPower env hd.sh.chainId c hd.trustedVals.vals >
          (cs.tlNum : Int) * totalOf hd.trustedVals.vals) ∧
    3 * signedPower env hd.sh.chainId c hd.vals.vals > 2 * totalOf hd.vals.vals

theorem signedHeaderBasic_ok {env : Env} {cid : Bytes} {hd : Header} {c : Commit}
    (h : signedHeaderBasic env cid hd = .ok c) :
    hd.commit = some c ∧ 0 < hd.sh.height ∧ hd.sh.chainId = cid ∧ c.height = hd.sh.height ∧
      c.blockHash = env.headerHash hd.sh := by
  unfold signedHeaderBasic at h
  cases hc : hd.commit <;> simp only [hc, reduceCtorEq] at h
  obtain ⟨hpos, h⟩ := require_bind_ok h
  obtain ⟨_, h⟩ := require_bind_ok h
  obtain ⟨hcid, h⟩ := require_bind_ok h
  obtain ⟨hch, h⟩ := require_bind_ok h
  obtain ⟨hcb, h⟩ := require_bind_ok h
  obtain rfl := pure_ok.mp h
  exact ⟨rfl, of_decide_eq_true (Bool.and_eq_true_iff.mp hpos).1, of_decide_eq_true hcid, of_decide_eq_true hch,
    of_decide_eq_true hcb⟩

theorem verifyNewHeaderAndVals_ok {env : Env} {cid : Bytes} {hd : Header} {vals : List Validator}
    {trustedH trustedTime now drift : Int} {c : Commit}
    (h : verifyNewHeaderAndVals env cid hd vals trustedH trustedTime now drift = .ok c) :
    signedHeaderBasic env cid hd = .ok c ∧ hd.sh.height > trustedH ∧ hd.sh.time > trustedTime ∧
      hd.sh.time < now + drift ∧ hd.sh.valsHash = env.valsHash vals := by
  obtain ⟨c', hc, h⟩ := bind_eq_ok.mp h
  obtain ⟨hheight, h⟩ := require_bind_ok h
  obtain ⟨hafter, h⟩ := require_bind_ok h
  obtain ⟨hdrift, h⟩ := require_bind_ok h
  obtain ⟨hvals, h⟩ := require_bind_ok h
  obtain rfl := pure_ok.mp h
  exact ⟨hc, of_decide_eq_true hheight, of_decide_eq_true hafter, of_decide_eq_true hdrift, of_decide_eq_true hvals⟩

theorem expired_false {t period now : Int} (h : (!expired t period now) = true) : t + period > now := by
  unfold expired at h
  simpa using h

/-- both branches of `light.Verify` check freshness, the new header and its own commit; they differ in how the header is
    tied to the trusted state: next-validators hash (adjacent) or trust-level signatures (skipping) -/
theorem lightVerify_ok {env : Env} {cs : ClientState} {cid : Bytes} {tc : ConsState} {trustedH : Int}
    {tvals : List Validator} {ttotal : Int} {hd : Header} {vals : List Validator} {total : Int} {now : Int}
    (h : lightVerify env cs cid tc trustedH tvals ttotal hd vals total now = .ok ()) :
    tc.time + cs.trustingPeriod > now ∧
    ∃ c, verifyNewHeaderAndVals env cid hd vals trustedH tc.time now cs.maxClockDrift = .ok c ∧
      verifyCommitLight env cid vals total hd.sh.height c = .ok () ∧
      (hd.sh.height = wrap64 (trustedH + 1) → hd.sh.valsHash = tc.nextValsHash) ∧
      (hd.sh.height ≠ wrap64 (trustedH + 1) →
        verifyCommitLightTrusting env cid tvals ttotal c cs.tlNum cs.tlDen = .ok ()) := by
  rw [lightVerify] at h
  by_cases hna : hd.sh.height ≠ wrap64 (trustedH + 1)
  · rw [if_pos hna] at h
    obtain ⟨hexp, h⟩ := require_bind_ok h
    obtain ⟨c, hnew, h⟩ := bind_eq_ok.mp h
    obtain ⟨_, htr, hli⟩ := bind_eq_ok.mp h
    exact ⟨expired_false hexp, c, hnew, hli, fun e => absurd e hna, fun _ => htr⟩
  · rw [if_neg hna] at h
    obtain ⟨hexp, h⟩ := require_bind_ok h
    obtain ⟨c, hnew, h⟩ := bind_eq_ok.mp h
    obtain ⟨hnv, hli⟩ := require_bind_ok h
    exact ⟨expired_false hexp, c, hnew, hli, fun _ => of_decide_eq_true hnv, fun e => absurd e hna⟩

theorem checkValidity_ok {env : Env} {cs : ClientState} {tc : ConsState} {hd : Header} {now : Int} {hh : Height}
    (h : checkValidity env cs tc hd now = .ok hh) : Valid env cs tc hd now hh := by
  obtain ⟨⟨tvals, ttotal⟩, htv, h⟩ := bind_eq_ok.mp h
  obtain ⟨hth, h⟩ := require_bind_ok h
  obtain ⟨hh', hhh, h⟩ := bind_eq_ok.mp h
  obtain ⟨hrev, h⟩ := require_bind_ok h
  obtain ⟨_, h⟩ := require_bind_ok h
  obtain ⟨_, h⟩ := require_bind_ok h
  obtain ⟨⟨vals, total⟩, hv, h⟩ := bind_eq_ok.mp h
  obtain ⟨hnewer, h⟩ := require_bind_ok h
  obtain ⟨_, hlv, h⟩ := bind_eq_ok.mp h
  obtain rfl := pure_ok.mp h
  obtain ⟨rfl, htnn, rfl, _⟩ := valSetFromProto_ok _ _ _ htv
  obtain ⟨rfl, hnn, rfl, _⟩ := valSetFromProto_ok _ _ _ hv
  obtain ⟨hexp, c, hnew, hli, hadj, hnadj⟩ := lightVerify_ok hlv
  obtain ⟨hsb, _, ht1, ht2, hvh⟩ := verifyNewHeaderAndVals_ok hnew
  obtain ⟨hc, hpos, hcid, hch, hcb⟩ := signedHeaderBasic_ok hsb
  rw [← hcid] at hli hnadj
  exact {
    height_eq := hhh, height_pos := hpos, trusted_hash := (of_decide_eq_true hth).symm, trusted_nonneg := htnn
    same_rev := of_decide_eq_true hrev, chain := hcid
    newer := Decidable.by_contra fun hn => of_not_decide hnewer (Height.not_lt.mp hn)
    not_expired := hexp, time_after := ht1, time_drift := ht2, vals_hash := hvh.symm, vals_nonneg := hnn
    commit := ⟨c, hc, hch, hcb, hadj, fun hna htl => commitTrusting_sound env _ _ c _ _ htnn htl (hnadj hna),
      (commitLight_sound env _ _ _ c hnn hli).1⟩ }

theorem updateClient_ok {env : Env} {c c' : Client} {hd : Header} {now : Int}
    (h : updateClient env c hd now = .ok c') :
    status c now = .active ∧
    ∃ tc hh st, lookup hd.trustedHeight c.st.cons = some tc ∧ Valid env c.cs tc hd now hh ∧
      validConsState (consOf hd) = true ∧ prune c.cs c.st now = some st ∧
      c' = { cs := { c.cs with latest := Height.max c.cs.latest hh },
             st := { cons := insert hh (consOf hd) st.cons, ptime := insert hh (toU64 now) st.ptime,
                     iter := insert hh () st.iter } } := by
  simp only [updateClient] at h
  cases hst : status c now <;> simp only [hst, reduceCtorEq] at h
  cases htc : lookup hd.trustedHeight c.st.cons <;> simp only [htc, reduceCtorEq, bind_eq_ok, require_ok] at h
  obtain ⟨hh, hcv, _, hvc, h⟩ := h
  cases hpr : prune c.cs c.st now <;> simp only [hpr, reduceCtorEq, pure_ok] at h
  exact ⟨rfl, _, hh, _, rfl, checkValidity_ok hcv, hvc, rfl, h.symm⟩

theorem prune_cons {cs : ClientState} {st st' : Store} {now : Int} (h : prune cs st now = some st') (k : Height) :
    lookup k st'.cons = lookup k st.cons ∨
    (lookup k st'.cons = none ∧ ∃ old, lookup k st.cons = some old ∧ expired old.time cs.trustingPeriod now = true) := by
  rw [prune] at h
  cases hm : minHeight st.iter <;> simp only [hm] at h
  case none => exact Or.inl (Option.some.inj h ▸ rfl)
  rename_i m
  cases hold : lookup m st.cons <;> simp only [hold] at h
  case none => nomatch h
  rename_i old
  cases hexp : expired old.time cs.trustingPeriod now <;> simp only [hexp, if_true, Bool.false_eq_true, if_false] at h
  case false => exact Or.inl (Option.some.inj h ▸ rfl)
  obtain rfl := Option.some.inj h
  by_cases hkm : k = m
  · exact Or.inr ⟨hkm ▸ lookup_erase_self, old, hkm ▸ hold, hexp⟩
  · exact Or.inl (lookup_erase_ne hkm)

/-- **accept_sound.** If the keeper's `UpdateClient` accepts a header at block time `now`, then
    the client was not expired, a consensus state `tc` is stored at the trusted height, the header passed every
    condition of `Valid` (trusted validators hash to `tc.nextValsHash`; same revision; strictly newer height; trusted
    state within the trusting period; `tc.time < header time < now + drift`; adjacent ⇒ the header's validators hash is
    `tc.nextValsHash`; non-adjacent ⇒ more than the trust level of the trusted set signed; more than 2/3 of the
    header's own set signed; the commit is for this header), and afterwards exactly
    `⟨time, appHash, nextValsHash⟩` of the header is stored at its height, with processed time `now`, and the latest
    height is the maximum of the old latest height and the header's height. -/
theorem accept_sound (env : Env) (c c' : Client) (hd : Header) (now : Int)
    (h : updateClient env c hd now = .ok c') :
    status c now = .active ∧
    ∃ tc hh, lookup hd.trustedHeight c.st.cons = some tc ∧
      Valid env c.cs tc hd now hh ∧
      lookup hh c'.st.cons = some ⟨hd.sh.time, hd.sh.appHash, hd.sh.nextValsHash⟩ ∧
      lookup hh c'.st.ptime = some (toU64 now) ∧
      lookup hh c'.st.iter = some () ∧
      c'.cs = { c.cs with latest := Height.max c.cs.latest hh } := by
  obtain ⟨hst, tc, hh, st, htc, hv, _, _, rfl⟩ := updateClient_ok h
  exact ⟨hst, tc, hh, htc, hv, lookup_insert_self, lookup_insert_self, lookup_insert_self, rfl⟩

/-- **accepted_state_exportable.** The consensus state an accepted header stores passes the module's own
    `ConsensusState.ValidateBasic` (non-empty root, well-formed next-validators hash, positive time): every state the
    update path can write is one the exported genesis validates. -/
theorem accepted_state_exportable (env : Env) (c c' : Client) (hd : Header) (now : Int)
    (h : updateClient env c hd now = .ok c') : validConsState (consOf hd) = true := by
  obtain ⟨_, _, _, _, _, _, hvc, _⟩ := updateClient_ok h
  exact hvc

/-- **accept_frame.** An accepted update changes the consensus states only at the header's height and, possibly, at
    one pruned height whose consensus state was expired. -/
theorem accept_frame (env : Env) (c c' : Client) (hd : Header) (now : Int) (hh : Height)
    (h : updateClient env c hd now = .ok c') (hhh : headerHeight hd = .ok hh) (k : Height) (hk : k ≠ hh) :
    lookup k c'.st.cons = lookup k c.st.cons ∨
    (lookup k c'.st.cons = none ∧ ∃ old, lookup k c.st.cons = some old ∧
        expired old.time c.cs.trustingPeriod now = true) := by
  obtain ⟨_, tc, hh', st, _, hv, _, hpr, rfl⟩ := updateClient_ok h
  obtain rfl : hh' = hh := Outcome.ok.inj (hv.height_eq.symm.trans hhh)
  rw [lookup_insert_ne hk]
  exact prune_cons hpr k

theorem update_latest_le {env : Env} {c c' : Client} {hd : Header} {now : Int}
    (h : updateClient env c hd now = .ok c') : c.cs.latest ≤ c'.cs.latest := by
  obtain ⟨_, _, _, _, _, _, _, _, rfl⟩ := updateClient_ok h
  exact Height.le_max_left

/-- **latest_monotone.** Over an arbitrary sequence of update attempts (any headers, any clock values, accepted or
    rejected, forward, skipping or back-filling) the latest height never decreases. -/
theorem latest_monotone (env : Env) (c : Client) (ops : List (Header × Int)) :
    c.cs.latest ≤ (runUpdates env c ops).cs.latest := by
  induction ops generalizing c with
  | nil => exact Height.le_refl
  | cons op ops ih =>
    obtain ⟨hd, now⟩ := op
    simp only [runUpdates]
    split
    · rename_i c' hc'
      exact Height.le_trans (update_latest_le hc') (ih c')
    · exact ih c

/-- The order on heights used everywhere (`Height.max`, the `≤ trusted height` test, the proof-height gate) is the
    lexicographic order on (revision number, revision height): a lower revision is below a higher one whatever the
    revision heights are. -/
theorem Height.lt_lex (a b : Height) :
    a < b ↔ a.rev < b.rev ∨ (a.rev = b.rev ∧ a.h < b.h) := Iff.rfl

theorem Height.lower_revision_lt (a b : Height) (h : a.rev < b.rev) : a < b := Or.inl h

theorem Height.max_cases (a b : Height) :
    (Height.max a b = a ∧ b ≤ a) ∨ (Height.max a b = b ∧ a < b) := by
  unfold Height.max
  by_cases h : a < b
  · exact Or.inr ⟨if_pos h, h⟩
  · exact Or.inl ⟨if_neg h, Height.not_lt.mp h⟩

/-- **latest_is_max.** After an accepted update the latest height is the lexicographic maximum of the previous latest
    height and the header's height: it is one of the two, it is at least both, and it is unchanged whenever the header
    is not above the previous latest height (back-filling — also of an *older revision* with a numerically larger
    revision height — never moves it). -/
theorem latest_is_max (env : Env) (c c' : Client) (hd : Header) (now : Int) (hh : Height)
    (h : updateClient env c hd now = .ok c') (hhh : headerHeight hd = .ok hh) :
    c.cs.latest ≤ c'.cs.latest ∧ hh ≤ c'.cs.latest ∧
    (c'.cs.latest = c.cs.latest ∨ c'.cs.latest = hh) ∧
    (hh ≤ c.cs.latest → c'.cs.latest = c.cs.latest) ∧
    (hh.rev < c.cs.latest.rev → c'.cs.latest = c.cs.latest) := by
  obtain ⟨_, tc, hh', _, _, hv, _, _, rfl⟩ := updateClient_ok h
  obtain rfl : hh' = hh := Outcome.ok.inj (hv.height_eq.symm.trans hhh)
  rcases Height.max_cases c.cs.latest hh' with ⟨e, hle⟩ | ⟨e, hlt⟩ <;> rw [e]
  · exact ⟨Height.le_refl, hle, Or.inl rfl, fun _ => rfl, fun _ => rfl⟩
  · exact ⟨Or.inl hlt, Height.le_refl, Or.inr rfl, fun hle => absurd hlt (Height.not_lt.mpr hle),
      fun hrev => absurd (Height.lower_revision_lt _ _ hrev) (Height.not_lt.mpr (Or.inl hlt))⟩

/-! ### histories with upgrades: consensus states of several revisions coexist -/

theorem upgrade_spec (c : Client) (cs : ClientState) (k : ConsState) (now : Int) :
    (upgradeClient c cs k now).cs = cs ∧
    lookup cs.latest (upgradeClient c cs k now).st.cons = some k ∧
    lookup cs.latest (upgradeClient c cs k now).st.ptime = some (toU64 now) ∧
    ∀ h, h ≠ cs.latest → lookup h (upgradeClient c cs k now).st.cons = lookup h c.st.cons ∧
                          lookup h (upgradeClient c cs k now).st.ptime = lookup h c.st.ptime := by
  exact ⟨rfl, lookup_insert_self, lookup_insert_self, fun h hne => ⟨lookup_insert_ne hne, lookup_insert_ne hne⟩⟩

theorem step_update_latest_le (env : Env) (c : Client) (hd : Header) (now : Int) :
    c.cs.latest ≤ (applyStep env c (.update hd now)).cs.latest := by
  simp only [applyStep]
  split
  · rename_i c' hc'; exact update_latest_le hc'
  · exact Height.le_refl

/-- every upgrade of the history installs a latest height that is not below the current one (what an upgrade proposal
    is for; the keeper does not check it) -/
def RaisingUpgrades (env : Env) : Client → List Step → Prop
  | _, [] => True
  | c, .update hd now :: rest => RaisingUpgrades env (applyStep env c (.update hd now)) rest
  | c, .upgrade cs k now :: rest => c.cs.latest ≤ cs.latest ∧ RaisingUpgrades env (upgradeClient c cs k now) rest

/-- **latest_monotone_steps.** Over arbitrary histories of update attempts (any headers of any revision, trusted
    heights in old or new revisions, any clocks) interleaved with upgrades that raise the latest height, the latest
    height never decreases in the lexicographic order. -/
theorem latest_monotone_steps (env : Env) (c : Client) (steps : List Step) (h : RaisingUpgrades env c steps) :
    c.cs.latest ≤ (runSteps env c steps).cs.latest := by
  induction steps generalizing c with
  | nil => exact Height.le_refl
  | cons s rest ih =>
    cases s with
    | update hd now => exact Height.le_trans (step_update_latest_le env c hd now) (ih _ h)
    | upgrade cs k now => exact Height.le_trans h.1 (ih _ h.2)

/-- without any assumption on the upgrades: after the last upgrade the latest height only grows -/
theorem latest_monotone_after_upgrade (env : Env) (c : Client) (cs : ClientState) (k : ConsState) (now : Int)
    (ups : List (Header × Int)) :
    cs.latest ≤ (runUpdates env (upgradeClient c cs k now) ups).cs.latest :=
  latest_monotone env (upgradeClient c cs k now) ups

theorem config_preserved (env : Env) (c : Client) (ops : List (Header × Int)) :
    (runUpdates env c ops).cs = { c.cs with latest := (runUpdates env c ops).cs.latest } := by
  induction ops generalizing c with
  | nil => rfl
  | cons op ops ih =>
    obtain ⟨hd, now⟩ := op
    simp only [runUpdates]
    split
    · rename_i c' hc'
      obtain ⟨_, _, _, _, _, _, _, _, rfl⟩ := updateClient_ok hc'
      exact ih _
    · exact ih c

/-- **expired_accepts_nothing.** A client whose latest consensus state is missing or has left the trusting period
    accepts no header whatsoever. -/
theorem expired_accepts_nothing (env : Env) (c : Client) (hd : Header) (now : Int)
    (h : status c now ≠ .active) : ∀ c', updateClient env c hd now ≠ .ok c' :=
  fun c' hc' => h (accept_sound env c c' hd now hc').1

/-- in particular: latest consensus state older than the trusting period ⇒ nothing is accepted -/
theorem expired_latest_accepts_nothing (env : Env) (c : Client) (hd : Header) (now : Int) (k : ConsState)
    (hk : lookup c.cs.latest c.st.cons = some k) (hexp : k.time + c.cs.trustingPeriod ≤ now) :
    ∀ c', updateClient env c hd now ≠ .ok c' := by
  apply expired_accepts_nothing
  have he : expired k.time c.cs.trustingPeriod now = true := by simpa [expired] using hexp
  simp [status, hk, he]

/-- What the guards shared by every `Verify*` entry point establish: the proof height is not above the latest height, a
    consensus state and a processed time are stored at it, the proof is present and decodes, and the configured delay
    has elapsed since that height was processed (`processedTime + TimeDelay` in unbounded arithmetic against the
    block time as `uint64`). -/
structure Gate (env : Env) (c : Client) (h : Height) (proof : Option Bytes) (now : Int) (pf : Bytes) (k : ConsState) :
    Prop where
  le_latest : h ≤ c.cs.latest
  stored : lookup h c.st.cons = some k
  present : proof = some pf
  decodes : env.proofDecodes pf = true
  delay : ∃ pt, lookup h c.st.ptime = some pt ∧ pt + c.cs.timeDelay ≤ toU64 now

theorem produceVerificationArgs_ok {env : Env} {c : Client} {h : Height} {proof : Option Bytes} {pf : Bytes}
    {k : ConsState} (hp : produceVerificationArgs env c h proof = .ok (pf, k)) :
    h ≤ c.cs.latest ∧ proof = some pf ∧ env.proofDecodes pf = true ∧ lookup h c.st.cons = some k := by
  obtain ⟨hlat, hp⟩ := require_bind_ok hp
  cases proof with
  | none => nomatch hp
  | some pf' =>
    obtain ⟨hdec, hp⟩ := require_bind_ok hp
    cases hk : lookup h c.st.cons <;> simp only [hk, reduceCtorEq] at hp
    obtain ⟨rfl, rfl⟩ := Prod.mk.inj (pure_ok.mp hp)
    exact ⟨Height.not_lt.mp (of_not_decide hlat), rfl, hdec, rfl⟩

theorem verifyDelayPeriodPassed_ok {c : Client} {h : Height} {delay : Nat} {now : Int}
    (hd : verifyDelayPeriodPassed c h delay now = .ok ()) :
    ∃ pt, lookup h c.st.ptime = some pt ∧ pt + delay ≤ toU64 now := by
  unfold verifyDelayPeriodPassed at hd
  cases hpt : lookup h c.st.ptime <;> simp only [hpt, reduceCtorEq] at hd
  obtain ⟨_, hd⟩ := require_bind_ok hd
  exact ⟨_, rfl, Nat.le_of_not_gt (of_not_decide (require_ok.mp hd))⟩

theorem verifyArgs_ok (env : Env) (c : Client) (h : Height) (proof : Option Bytes) (now : Int) (pf : Bytes)
    (k : ConsState) (hv : verifyArgs env c h proof now = .ok (pf, k)) : Gate env c h proof now pf k := by
  obtain ⟨r, hp, hv⟩ := bind_eq_ok.mp hv
  obtain ⟨_, hd, hv⟩ := bind_eq_ok.mp hv
  obtain rfl := pure_ok.mp hv
  obtain ⟨hle, hpf, hdec, hk⟩ := produceVerificationArgs_ok hp
  exact ⟨hle, hk, hpf, hdec, verifyDelayPeriodPassed_ok hd⟩

/-- **proof_gate (commitment path).** `VerifyPacketCommitment` honours a proof only at a height not above the latest
    height, at which a consensus state and a processed time are stored, only after the delay since processing, and only
    if the membership proof of the commitment path verifies against the root stored at that height. -/
theorem proof_gate (env : Env) (c : Client) (h : Height) (proof : Option Bytes) (id value : Bytes) (now : Int)
    (hv : verifyPacketCommitment env c h proof id value now = .ok ()) :
    ∃ pf k, Gate env c h proof now pf k ∧ env.membership k.root pf (commitmentPath id) value = true := by
  obtain ⟨⟨pf, k⟩, ha, hm⟩ := bind_eq_ok.mp hv
  exact ⟨pf, k, verifyArgs_ok _ _ _ _ _ _ _ ha, require_ok.mp hm⟩

/-- **proof_gate_ack (acknowledgement path).** The same gate for `VerifyPacketAcknowledgement`, stated separately: the
    acknowledgement path has its own call of the delay check in the code. -/
theorem proof_gate_ack (env : Env) (c : Client) (h : Height) (proof : Option Bytes) (id value : Bytes) (now : Int)
    (hv : verifyPacketAcknowledgement env c h proof id value now = .ok ()) :
    ∃ pf k, Gate env c h proof now pf k ∧ env.membership k.root pf (acknowledgementPath id) value = true := by
  obtain ⟨⟨pf, k⟩, ha, hm⟩ := bind_eq_ok.mp hv
  exact ⟨pf, k, verifyArgs_ok _ _ _ _ _ _ _ ha, require_ok.mp hm⟩

/-- the delay conjunct with the block time as a number (non-negative `int64`): `processedTime + delay ≤ now` -/
theorem gate_delay (env : Env) (c : Client) (h : Height) (proof : Option Bytes) (now : Int) (pf : Bytes) (k : ConsState)
    (g : Gate env c h proof now pf k) (hnow : 0 ≤ now ∧ now < two63) :
    ∃ pt, lookup h c.st.ptime = some pt ∧ ((pt + c.cs.timeDelay : Nat) : Int) ≤ now := by
  obtain ⟨pt, hpt, hd⟩ := g.delay
  exact ⟨pt, hpt, Int.le_trans (Int.ofNat_le.mpr hd) (Int.le_of_eq (toU64_of_nonneg hnow.1 hnow.2))⟩

theorem proof_gate_delay (env : Env) (c : Client) (h : Height) (proof : Option Bytes) (id value : Bytes) (now : Int)
    (hv : verifyPacketCommitment env c h proof id value now = .ok ())
    (hnow : 0 ≤ now ∧ now < two63) :
    ∃ pt, lookup h c.st.ptime = some pt ∧ ((pt + c.cs.timeDelay : Nat) : Int) ≤ now := by
  obtain ⟨pf, k, g, _⟩ := proof_gate env c h proof id value now hv
  exact gate_delay env c h proof now pf k g hnow

theorem proof_gate_ack_delay (env : Env) (c : Client) (h : Height) (proof : Option Bytes) (id value : Bytes) (now : Int)
    (hv : verifyPacketAcknowledgement env c h proof id value now = .ok ())
    (hnow : 0 ≤ now ∧ now < two63) :
    ∃ pt, lookup h c.st.ptime = some pt ∧ ((pt + c.cs.timeDelay : Nat) : Int) ≤ now := by
  obtain ⟨pf, k, g, _⟩ := proof_gate_ack env c h proof id value now hv
  exact gate_delay env c h proof now pf k g hnow

/-- a consensus state that is still stored above the latest height (after an upgrade installed a lower latest height)
    is never used: both paths reject a proof height above the latest height -/
theorem above_latest_rejected (env : Env) (c : Client) (h : Height) (proof : Option Bytes) (id value : Bytes) (now : Int)
    (hab : c.cs.latest < h) :
    verifyPacketCommitment env c h proof id value now ≠ .ok () ∧
    verifyPacketAcknowledgement env c h proof id value now ≠ .ok () := by
  constructor
  · intro hv
    obtain ⟨pf, k, g, _⟩ := proof_gate env c h proof id value now hv
    exact Height.not_lt.mpr g.le_latest hab
  · intro hv
    obtain ⟨pf, k, g, _⟩ := proof_gate_ack env c h proof id value now hv
    exact Height.not_lt.mpr g.le_latest hab

/-- a configuration that passes `ClientState.Validate` has a trust level in `[1/3, 1]` that fits `int64`, which is the
    side condition of the "trust level" conjunct of `Valid` -/
theorem validTrustLevel_int64 (num den : Nat) (h : validTrustLevel num den = true) :
    TrustLevelInt64 num den ∧ num ≤ den := by
  unfold validTrustLevel at h
  simp only [Bool.and_eq_true, Bool.not_eq_true', Bool.or_eq_false_iff, decide_eq_false_iff_not, decide_eq_true_eq] at h
  obtain ⟨⟨⟨⟨_, h2⟩, h3⟩, h4⟩, h5⟩ := h
  exact ⟨⟨Int.lt_of_le_of_lt h4 (by decide), Nat.pos_of_ne_zero h3, Int.lt_of_le_of_lt h5 (by decide)⟩,
    Nat.le_of_not_gt h2⟩

/-! ### the wording "more than the trust level of the trusted set", also for adjacent headers -/

/-- the part of a validator set that is hashed: public key and voting power, in order -/
def keyPowers (vs : List Validator) : List (Nat × Int) := vs.map (fun v => (v.key, v.power))

/-- no collision of the validator-set hash between two given sets, on what the hash covers
    (an assumption about SHA-256 / the Merkle tree of `ValidatorSet.Hash`, needed only for the sets in play) -/
def NoValsHashCollision (env : Env) (a b : List Validator) : Prop :=
  env.valsHash a = env.valsHash b → keyPowers a = keyPowers b

theorem signedPower_congr (env : Env) (cid : Bytes) (c : Commit) (a b : List Validator)
    (h : keyPowers a = keyPowers b) : signedPower env cid c a = signedPower env cid c b ∧ totalOf a = totalOf b := by
  induction a generalizing b with
  | nil =>
    cases b with
    | nil => exact ⟨rfl, rfl⟩
    | cons y b => nomatch h
  | cons x a ih =>
    cases b with
    | nil => nomatch h
    | cons y b =>
      obtain ⟨hxy, hrest⟩ := List.cons.inj h
      obtain ⟨hk, hp⟩ := Prod.mk.inj hxy
      obtain ⟨h1, h2⟩ := ih b hrest
      rw [signedPower_cons, signedPower_cons, h1, hk, hp, totalOf, totalOf, h2, hp]
      exact ⟨rfl, rfl⟩

theorem two_thirds_implies_level {sp tot : Int} {n d : Nat} (htot : 0 ≤ tot) (h : 3 * sp > 2 * tot)
    (hl : 3 * n ≤ 2 * d) (hd : 0 < d) : (d : Int) * sp > (n : Int) * tot := by
  have h3 : 3 * ((n : Int) * tot) < 3 * ((d : Int) * sp) := calc
    3 * ((n : Int) * tot) = (3 * (n : Int)) * tot := (Int.mul_assoc _ _ _).symm
    _ ≤ (2 * (d : Int)) * tot := Int.mul_le_mul_of_nonneg_right (Int.ofNat_le.mpr hl) htot
    _ = (d : Int) * (2 * tot) := by rw [Int.mul_comm 2, Int.mul_assoc]
    _ < (d : Int) * (3 * sp) := Int.mul_lt_mul_of_pos_left h (Int.natCast_pos.mpr hd)
    _ = 3 * ((d : Int) * sp) := Int.mul_left_comm _ _ _
  exact Int.lt_of_mul_lt_mul_left h3 (by decide)

/-- **accept_sound_trustlevel.** With a trust level of at most 2/3 (every sane configuration; the default is 1/3) and a
    collision-free validator-set hash, an accepted header — adjacent or not — carries valid signatures of validators
    holding more than the trust level of the *trusted* set (the next validators of the trusted height). -/
theorem accept_sound_trustlevel (env : Env) (c c' : Client) (hd : Header) (now : Int)
    (h : updateClient env c hd now = .ok c')
    (hcf : NoValsHashCollision env hd.vals.vals hd.trustedVals.vals)
    (htl : TrustLevelInt64 c.cs.tlNum c.cs.tlDen) (hlvl : 3 * c.cs.tlNum ≤ 2 * c.cs.tlDen) :
    ∃ tc cm, lookup hd.trustedHeight c.st.cons = some tc ∧ hd.commit = some cm ∧
      env.valsHash hd.trustedVals.vals = tc.nextValsHash ∧
      (c.cs.tlDen : Int) * signedPower env hd.sh.chainId cm hd.trustedVals.vals >
        (c.cs.tlNum : Int) * totalOf hd.trustedVals.vals := by
  obtain ⟨_, tc, hh, htc, hv, _⟩ := accept_sound env c c' hd now h
  obtain ⟨cm, hcm, _, _, hadj, hnadj, hown⟩ := hv.commit
  refine ⟨tc, cm, htc, hcm, hv.trusted_hash, ?_⟩
  by_cases ha : Adjacent hd
  · have hhash : env.valsHash hd.vals.vals = env.valsHash hd.trustedVals.vals := by
      rw [hv.vals_hash, hadj ha, hv.trusted_hash]
    obtain ⟨e1, e2⟩ := signedPower_congr env hd.sh.chainId cm _ _ (hcf hhash)
    rw [← e1, ← e2]
    exact two_thirds_implies_level (totalOf_nonneg hv.vals_nonneg) hown hlvl htl.2.1
  · exact hnadj ha htl

/-! ### the same facts in plain arithmetic (heights on the wire are `int64`) -/

/-- the stored height is the block height of the header, strictly above the trusted height -/
theorem valid_height (env : Env) (cs : ClientState) (tc : ConsState) (hd : Header) (now : Int) (hh : Height)
    (hv : Valid env cs tc hd now hh) (hwire : hd.sh.height < two63) :
    (hh.h : Int) = hd.sh.height ∧ hh.rev = hd.trustedHeight.rev ∧ (hd.trustedHeight.h : Int) < hd.sh.height := by
  obtain ⟨r, _, hr⟩ := bind_eq_ok.mp hv.height_eq
  have e : (hh.h : Int) = hd.sh.height := by
    rw [← pure_ok.mp hr]
    exact toU64_of_nonneg (Int.le_of_lt hv.height_pos) hwire
  refine ⟨e, hv.same_rev, ?_⟩
  rcases hv.newer with hlt | ⟨_, hlt⟩
  · exact absurd hv.same_rev (Nat.ne_of_gt hlt)
  · rw [← e]
    exact Int.ofNat_lt.mpr hlt

/-- for an accepted header, the library's adjacency test is `height = trusted height + 1` -/
theorem adjacent_iff (env : Env) (cs : ClientState) (tc : ConsState) (hd : Header) (now : Int) (hh : Height)
    (hv : Valid env cs tc hd now hh) (hwire : hd.sh.height < two63) :
    Adjacent hd ↔ hd.sh.height = hd.trustedHeight.h + 1 := by
  obtain ⟨_, _, hlt⟩ := valid_height env cs tc hd now hh hv hwire
  rw [Adjacent, wrap64_id (Int.natCast_nonneg _) (Int.lt_trans hlt hwire),
    wrap64_id (Int.add_nonneg (Int.natCast_nonneg _) (by decide)) (Int.lt_of_le_of_lt (Int.add_one_le_of_lt hlt) hwire)]

theorem updateClientMsg_ok (env : Env) (c c' : Client) (hd : Header) (now : Int)
    (h : updateClientMsg env c hd now = .ok c') :
    headerValidateBasic env hd = .ok () ∧ updateClient env c hd now = .ok c' := by
  obtain ⟨_, h1, h2⟩ := bind_eq_ok.mp h
  exact ⟨h1, h2⟩

/-- a header accepted through `MsgUpdateClient` (`ValidateBasic`, then the msg server) is a header accepted by the keeper:
    every conclusion of `accept_sound` holds for the transaction path -/
theorem msg_accept_sound (env : Env) (c c' : Client) (hd : Header) (now : Int)
    (h : updateClientMsg env c hd now = .ok c') :
    status c now = .active ∧
    ∃ tc hh, lookup hd.trustedHeight c.st.cons = some tc ∧
      Valid env c.cs tc hd now hh ∧
      lookup hh c'.st.cons = some ⟨hd.sh.time, hd.sh.appHash, hd.sh.nextValsHash⟩ ∧
      lookup hh c'.st.ptime = some (toU64 now) ∧
      lookup hh c'.st.iter = some () ∧
      c'.cs = { c.cs with latest := Height.max c.cs.latest hh } :=
  accept_sound env c c' hd now (updateClientMsg_ok env c c' hd now h).2

theorem World.get_set_self {w : World} {n : Bytes} {c : Client} : (w.set n c).get n = some c := by
  induction w with
  | nil => simp [World.set, World.get]
  | cons x w ih =>
    obtain ⟨m, d⟩ := x
    by_cases h : m = n <;> simp [World.set, World.get, h, ih]

theorem World.get_set_ne {w : World} {n n' : Bytes} {c : Client} (hne : n' ≠ n) :
    (w.set n c).get n' = w.get n' := by
  induction w with
  | nil => simp [World.set, World.get, Ne.symm hne]
  | cons x w ih =>
    obtain ⟨m, d⟩ := x
    by_cases h : m = n
    · subst h
      simp [World.set, World.get, Ne.symm hne]
    · by_cases h2 : m = n' <;> simp [World.set, World.get, h, h2, hne, ih]

/-- the client an operation is addressed to -/
def WOp.target : WOp → Option Bytes
  | .create n _ _ _ => some n
  | .upgrade n _ _ _ => some n
  | .update n _ _ => some n
  | .updateMsg n _ _ => some n
  | .restart => none
  | .discarded _ => none

/-- **restart_identity.** Export → validate → wipe → import leaves every client exactly as it was (client state,
    consensus states of every revision, processed times, iteration keys). -/
theorem restart_identity (w : World) : restart w = w := rfl

/-- an execution on a dropped cache context changes nothing -/
theorem discarded_identity (env : Env) (w : World) (op : WOp) : applyW env w (.discarded op) = w := rfl

def WOp.isUpgradeOf (n : Bytes) : WOp → Bool
  | .upgrade m _ _ _ => m == n
  | _ => false

theorem applyW_spec (env : Env) (w : World) (op : WOp) :
    applyW env w op = w ∨ ∃ n c', op.target = some n ∧ applyW env w op = w.set n c' ∧
      (op.isUpgradeOf n = false → ∀ c, w.get n = some c → c.cs.latest ≤ c'.cs.latest) := by
  cases op with
  | create n cs k now =>
    rw [applyW]
    cases hget : w.get n <;> dsimp only
    · cases validProposal cs k
      · exact Or.inl rfl
      · exact Or.inr ⟨n, _, rfl, rfl, fun _ c hc => nomatch hget.symm.trans hc⟩
    · exact Or.inl rfl
  | upgrade n cs k now =>
    rw [applyW]
    cases hget : w.get n <;> dsimp only
    · exact Or.inl rfl
    · cases validProposal cs k
      · exact Or.inl rfl
      · exact Or.inr ⟨n, _, rfl, rfl, fun hop => Bool.noConfusion ((beq_self_eq_true n).symm.trans hop)⟩
  | update n hd now =>
    rw [applyW]
    cases hget : w.get n <;> dsimp only
    · exact Or.inl rfl
    · rename_i c
      cases hu : updateClient env c hd now
      case ok c' =>
        exact Or.inr ⟨n, c', rfl, rfl, fun _ _ hc =>
          Option.some.inj (hget.symm.trans hc) ▸ update_latest_le hu⟩
      all_goals exact Or.inl rfl
  | updateMsg n hd now =>
    rw [applyW]
    cases hget : w.get n <;> dsimp only
    · exact Or.inl rfl
    · rename_i c
      cases hu : updateClientMsg env c hd now
      case ok c' =>
        exact Or.inr ⟨n, c', rfl, rfl, fun _ _ hc =>
          Option.some.inj (hget.symm.trans hc) ▸ update_latest_le (updateClientMsg_ok env c c' hd now hu).2⟩
      all_goals exact Or.inl rfl
  | restart => exact Or.inl rfl
  | discarded op => exact Or.inl rfl

/-- **frame.** An operation addressed to one client leaves every other client of the store untouched — also a second
    client of the same counterparty chain under another name. -/
theorem frame (env : Env) (w : World) (op : WOp) (n' : Bytes) (h : op.target ≠ some n') :
    (applyW env w op).get n' = w.get n' := by
  rcases applyW_spec env w op with he | ⟨n, c', ht, he, _⟩ <;> rw [he]
  exact World.get_set_ne fun e => h (e ▸ ht)

theorem applyW_latest_le (env : Env) (w : World) (op : WOp) (n : Bytes) (c : Client)
    (hc : w.get n = some c) (hop : op.isUpgradeOf n = false) :
    ∃ c', (applyW env w op).get n = some c' ∧ c.cs.latest ≤ c'.cs.latest := by
  rcases applyW_spec env w op with he | ⟨m, c', _, he, hle⟩ <;> rw [he]
  · exact ⟨c, hc, Height.le_refl⟩
  · by_cases hm : n = m
    · subst hm
      exact ⟨c', World.get_set_self, hle hop c hc⟩
    · exact ⟨c, (World.get_set_ne hm).trans hc, Height.le_refl⟩

/-- **world_latest_monotone.** Over arbitrary histories in a store with several clients — keeper-level and
    transaction-level updates of any client, creations, upgrades of *other* clients, restarts from an export and
    discarded executions in any order — the latest height of client `n` never decreases. -/
theorem world_latest_monotone (env : Env) (w : World) (ops : List WOp) (n : Bytes) (c : Client)
    (hc : w.get n = some c) (hops : ops.all (fun op => !op.isUpgradeOf n) = true) :
    ∃ c', (runW env w ops).get n = some c' ∧ c.cs.latest ≤ c'.cs.latest := by
  induction ops generalizing w c with
  | nil => exact ⟨c, hc, Height.le_refl⟩
  | cons op rest ih =>
    simp only [List.all_cons, Bool.and_eq_true, Bool.not_eq_true'] at hops
    obtain ⟨c1, h1, hle1⟩ := applyW_latest_le env w op n c hc hops.1
    obtain ⟨c2, h2, hle2⟩ := ih (applyW env w op) c1 h1 hops.2
    exact ⟨c2, h2, Height.le_trans hle1 hle2⟩

/-! ### non-vacuity: concrete clients, headers and proofs on which the hypotheses hold -/
section Examples

/-- all example times are offsets from this instant (a consensus state needs a positive Unix time) -/
def exT0 : Int := 2000000000
/-- the 32-byte validator-set hash of the example set -/
def exNV : Hash := List.replicate 29 0 ++ [1, 2, 3]

def exEnv : Env where
  valsHash := fun vs => List.replicate 29 0 ++ vs.map (fun v => UInt8.ofNat v.key)
  headerHash := fun h => [UInt8.ofNat h.height.toNat]
  sigValid := fun _ _ idx key => idx + 1 == key
  proofDecodes := fun _ => true
  membership := fun root _ _ _ => root == [9]

def exVals : List Validator := [⟨1, 1, 1, true, true⟩, ⟨2, 2, 1, true, true⟩, ⟨3, 3, 1, true, true⟩]
def exValSet : ValSetP := ⟨false, exVals, true, true⟩
/-- chain "abc", trust level 1/3, trusting period 1000, drift 10, delay 20, created at height 0-5 at time 120 -/
def exClient : Client :=
  createClient ⟨[97, 98, 99], 1, 3, 1000, 10, ⟨0, 5⟩, 20⟩ ⟨exT0 + 100, [7], exNV⟩ (exT0 + 120)

def exCommit (h : Int) (flags : List Flag) : Commit :=
  ⟨h, [UInt8.ofNat h.toNat], true, flags.zipIdx.map (fun (f, i) => ⟨f, i + 1⟩)⟩

def exHeader (h : Int) (t : Int) (th : Nat) (flags : List Flag) : Header where
  sh := ⟨[97, 98, 99], h, exT0 + t, exNV, exNV, [9], true, []⟩
  commit := some (exCommit h flags)
  vals := exValSet
  trustedHeight := ⟨0, th⟩
  trustedVals := exValSet

/-- `exClient` after the adjacent header 0-6 (time 150, all three sign) was accepted at time 200 -/
def exClient6 : Client where
  cs := { exClient.cs with latest := ⟨0, 6⟩ }
  st := { cons := insert ⟨0, 6⟩ ⟨exT0 + 150, [9], exNV⟩ exClient.st.cons
          ptime := insert ⟨0, 6⟩ (toU64 (exT0 + 200)) exClient.st.ptime
          iter := insert ⟨0, 6⟩ () exClient.st.iter }

/-- reached clients are compared by evaluation -/
local instance : DecidableEq Client := fun a b =>
  decidable_of_iff (a.cs = b.cs ∧ a.st.cons = b.st.cons ∧ a.st.ptime = b.st.ptime ∧ a.st.iter = b.st.iter) (by
    obtain ⟨_, ⟨_, _, _⟩⟩ := a
    obtain ⟨_, ⟨_, _, _⟩⟩ := b
    simp only [Client.mk.injEq, Store.mk.injEq])

theorem exAccepted :
    updateClient exEnv exClient (exHeader 6 150 5 [.commit, .commit, .commit]) (exT0 + 200) = .ok exClient6 := by
  decide +kernel

theorem exRun6 :
    runUpdates exEnv exClient [(exHeader 6 150 5 [.commit, .commit, .commit], exT0 + 200)] = exClient6 := by
  rw [runUpdates, exAccepted]
  rfl

/-- adjacent header signed by all three validators: accepted (the hypothesis of `accept_sound` is satisfiable) -/
example : (updateClient exEnv exClient (exHeader 6 150 5 [.commit, .commit, .commit]) (exT0 + 200)).isOk = true := by
  rw [exAccepted]
  rfl
/-- exactly two thirds sign: rejected -/
example : (updateClient exEnv exClient (exHeader 6 150 5 [.commit, .commit, .absent]) (exT0 + 200)).isOk = false := by decide +kernel
/-- skipping header (non-adjacent path), all sign: accepted -/
example : (updateClient exEnv exClient (exHeader 9 150 5 [.commit, .commit, .commit]) (exT0 + 200)).isOk = true := by decide +kernel
/-- skipping header signed by exactly one third of the trusted set: rejected -/
example : (updateClient exEnv exClient (exHeader 9 150 5 [.commit, .absent, .absent]) (exT0 + 200)).isOk = false := by decide +kernel
/-- trusted state out of the trusting period: rejected -/
example : (updateClient exEnv exClient (exHeader 6 150 5 [.commit, .commit, .commit]) (exT0 + 1100)).isOk = false := by decide +kernel
/-- header time at `now + drift`: rejected -/
example : (updateClient exEnv exClient (exHeader 6 210 5 [.commit, .commit, .commit]) (exT0 + 200)).isOk = false := by decide +kernel
/-- the side conditions of `accept_sound_trustlevel` hold for this client and message -/
example : validTrustLevel exClient.cs.tlNum exClient.cs.tlDen = true ∧
    TrustLevelInt64 exClient.cs.tlNum exClient.cs.tlDen ∧ 3 * exClient.cs.tlNum ≤ 2 * exClient.cs.tlDen ∧
    NoValsHashCollision exEnv (exHeader 6 150 5 []).vals.vals (exHeader 6 150 5 []).trustedVals.vals :=
  ⟨by decide, by unfold TrustLevelInt64; decide, by decide, fun _ => rfl⟩
/-- a proof at the stored height is honoured after the delay, not before, and never above the latest height -/
example : (verifyPacketCommitment exEnv (runUpdates exEnv exClient [(exHeader 6 150 5 [.commit, .commit, .commit], exT0 + 200)])
    ⟨0, 6⟩ (some []) [] [] (exT0 + 220)).isOk = true := by
  rw [exRun6]
  decide +kernel
example : (verifyPacketCommitment exEnv (runUpdates exEnv exClient [(exHeader 6 150 5 [.commit, .commit, .commit], exT0 + 200)])
    ⟨0, 6⟩ (some []) [] [] (exT0 + 219)).isOk = false := by
  rw [exRun6]
  decide +kernel
example : (verifyPacketCommitment exEnv exClient ⟨0, 6⟩ (some []) [] [] (exT0 + 1000)).isOk = false := by decide +kernel
/-- the acknowledgement path: honoured from `processed + delay` on, not one nanosecond earlier -/
example : (verifyPacketAcknowledgement exEnv (runUpdates exEnv exClient [(exHeader 6 150 5 [.commit, .commit, .commit], exT0 + 200)])
    ⟨0, 6⟩ (some []) [] [] (exT0 + 220)).isOk = true := by
  rw [exRun6]
  decide +kernel
example : (verifyPacketAcknowledgement exEnv (runUpdates exEnv exClient [(exHeader 6 150 5 [.commit, .commit, .commit], exT0 + 200)])
    ⟨0, 6⟩ (some []) [] [] (exT0 + 219)).isOk = false := by
  rw [exRun6]
  decide +kernel
/-- updated to 0-6, then an upgrade installs latest height 0-4: the consensus state at 0-6 is still stored, and proofs
    at 0-6 are rejected on both paths -/
example :
    let c := upgradeClient (runUpdates exEnv exClient [(exHeader 6 150 5 [.commit, .commit, .commit], exT0 + 200)])
      { exClient.cs with latest := ⟨0, 4⟩ } ⟨exT0 + 90, [9], exNV⟩ (exT0 + 210)
    (lookup ⟨0, 6⟩ c.st.cons).isSome = true ∧
    (verifyPacketCommitment exEnv c ⟨0, 6⟩ (some []) [] [] (exT0 + 1000)).isOk = false ∧
    (verifyPacketAcknowledgement exEnv c ⟨0, 6⟩ (some []) [] [] (exT0 + 1000)).isOk = false ∧
    (verifyPacketAcknowledgement exEnv c ⟨0, 4⟩ (some []) [] [] (exT0 + 1000)).isOk = true := by
  rw [exRun6]
  decide +kernel

/-! multi-revision: created at 1-100 (chain "a-1"), upgraded to 2-5 (chain "a-2"), then the old revision is
    back-filled with 1-101 trusting 1-100: accepted, stored, and the latest height stays 2-5 although 101 > 5 -/
def exClientR : Client :=
  upgradeClient (createClient ⟨[97, 45, 49], 1, 3, 1000, 10, ⟨1, 100⟩, 20⟩ ⟨exT0 + 100, [7], exNV⟩ (exT0 + 120))
    ⟨[97, 45, 50], 1, 3, 1000, 10, ⟨2, 5⟩, 20⟩ ⟨exT0 + 130, [8], exNV⟩ (exT0 + 140)

def exHeaderR (chain : Bytes) (h : Int) (t : Int) (trev th : Nat) : Header where
  sh := ⟨chain, h, exT0 + t, exNV, exNV, [9], true, []⟩
  commit := some (exCommit h [.commit, .commit, .commit])
  vals := exValSet
  trustedHeight := ⟨trev, th⟩
  trustedVals := exValSet

example : (updateClient exEnv exClientR (exHeaderR [97, 45, 49] 101 150 1 100) (exT0 + 200)).isOk = true := by decide +kernel
example : (runSteps exEnv exClientR [.update (exHeaderR [97, 45, 49] 101 150 1 100) (exT0 + 200)]).cs.latest = ⟨2, 5⟩ ∧
    (lookup ⟨1, 101⟩ (runSteps exEnv exClientR [.update (exHeaderR [97, 45, 49] 101 150 1 100) (exT0 + 200)]).st.cons).isSome = true := by
  decide +kernel
/-- forward in the new revision with a numerically smaller revision height: latest becomes 2-6 -/
example : (runSteps exEnv exClientR [.update (exHeaderR [97, 45, 49] 101 150 1 100) (exT0 + 200),
    .update (exHeaderR [97, 45, 50] 6 160 2 5) (exT0 + 200)]).cs.latest = ⟨2, 6⟩ := by
  decide +kernel
/-- a header of revision 1 cannot be verified against a trusted height of revision 2 -/
example : (updateClient exEnv exClientR (exHeaderR [97, 45, 49] 101 150 2 5) (exT0 + 200)).isOk = false := by decide +kernel

/-! two clients of the same chain under two names: an update of one does not touch the other; a restart and a
    discarded update change nothing -/
def exWorld : World := [([97], exClient), ([98], exClient)]
example :
    let w := runW exEnv exWorld [.updateMsg [97] (exHeader 6 150 5 [.commit, .commit, .commit]) (exT0 + 200), .restart,
      .discarded (.update [98] (exHeader 6 150 5 [.commit, .commit, .commit]) 200)]
    ((w.get [97]).map (·.cs.latest)) = some ⟨0, 6⟩ ∧ ((w.get [98]).map (·.cs.latest)) = some ⟨0, 5⟩ := by decide +kernel
/-- the transaction path accepts the well-formed header and refuses one whose trusted height is above its height -/
example : (updateClientMsg exEnv exClient (exHeader 6 150 5 [.commit, .commit, .commit]) (exT0 + 200)).isOk = true := by
  rw [updateClientMsg, exAccepted]
  decide +kernel
example : (headerValidateBasic exEnv (exHeader 6 150 7 [.commit, .commit, .commit])).isOk = false := by decide +kernel

end Examples

end TM.TmClient
