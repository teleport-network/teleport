import TeleportModel.Model.ChainId
import TeleportModel.Proofs.C19Host
/-
C18 — chain ids: `SetRevisionNumber` keeps the name part (everything before the last hyphen) and round-trips through
`ParseChainID`, for every revision-format id and every revision below 2^63 (above, `strconv.Itoa(int(revision))` of the
code yields a negative number: see `setRevision_beyond_int63`).
-/
namespace TM.ChainId
open TM TM.Host TM.C19

theorem splitLast_none_of_noHyphen (d : Bytes) (hd : ∀ c ∈ d, c ≠ hy) : splitLast d = none := by
  induction d with
  | nil => rfl
  | cons x r ih =>
    have hx : x ≠ hy := hd x (by simp)
    simp [splitLast, ih (fun c hc => hd c (by simp [hc])), hx]

theorem splitLast_append (pre d : Bytes) (hd : ∀ c ∈ d, c ≠ hy) : splitLast (pre ++ hy :: d) = some (pre, d) := by
  induction pre with
  | nil => simp [splitLast, splitLast_none_of_noHyphen d hd]
  | cons a pre ih => simp [splitLast, ih]

theorem toDec_noHyphen (n : UInt64) : ∀ c ∈ toDec n, c ≠ hy := by
  intro c hc h
  subst h
  have := toDecF_digits 20 n.toNat hy hc
  simp [isDigit, hy] at this

theorem digit_toNat (m : Nat) : (digit m).toNat = 48 + m % 10 :=
  Nat.mod_eq_of_lt (Nat.lt_trans (Nat.add_lt_add_left (Nat.mod_lt m (by decide)) 48) (by decide))

/-- a decimal digit other than `0` lies in `'1'` … `'9'` -/
theorem digit_pos {m : Nat} (h : 1 ≤ m % 10) : 49 ≤ digit m ∧ digit m ≤ 57 := by
  rw [UInt8.le_iff_toNat_le, UInt8.le_iff_toNat_le, digit_toNat]
  exact ⟨Nat.add_le_add_left h 48, Nat.add_le_add_left (Nat.le_of_lt_succ (Nat.mod_lt m (by decide))) 48⟩

/-- the first decimal digit of a positive number is not 0 -/
theorem toDecF_head (f : Nat) : ∀ n, 1 ≤ n → n < 10 ^ f → ∃ m r, toDecF f n = digit m :: r ∧ 1 ≤ m % 10 := by
  induction f with
  | zero => intro n h1 h2; exact absurd h1 (Nat.not_le_of_lt h2)
  | succ f ih =>
    intro n h1 h2
    rw [toDecF]
    by_cases h10 : n < 10
    · rw [if_pos h10]; exact ⟨n, [], rfl, by rw [Nat.mod_eq_of_lt h10]; exact h1⟩
    · rw [if_neg h10]
      obtain ⟨m, r, hm, hr⟩ := ih (n / 10) ((Nat.le_div_iff_mul_le (by decide)).2 (Nat.le_of_not_lt h10))
        (Nat.div_lt_of_lt_mul (by rw [Nat.mul_comm]; exact h2))
      exact ⟨m, r ++ [digit n], by rw [hm]; rfl, hr⟩

theorem isPosDecimal_toDec (n : UInt64) (h : 1 ≤ n.toNat) : isPosDecimal (toDec n) = true := by
  obtain ⟨m, r, hx, hm⟩ := toDecF_head 20 n.toNat h (Nat.lt_trans n.toNat_lt (by decide))
  have hd := toDecF_digits 20 n.toNat
  unfold isPosDecimal toDec
  rw [hx] at hd ⊢
  simp only [Bool.and_eq_true, decide_eq_true_eq, List.all_eq_true]
  exact ⟨digit_pos hm, fun c hc => hd c (List.mem_cons_of_mem _ hc)⟩

theorem itoaInt_small (rev : Nat) (h : rev < 2 ^ 63) : itoaInt rev = toDec (UInt64.ofNat rev) := by
  rw [itoaInt, Nat.mod_eq_of_lt (Nat.lt_trans h (by decide)), if_pos h]

/-- after `SetRevisionNumber` everything before the last hyphen is what it was, and the last
    segment is the decimal form of the new revision — whatever hyphens and digits the name part contains -/
theorem setRevision_keeps_name (s pre suf : Bytes) (rev : Nat) (hrev : rev < 2 ^ 63) (hf : isRevisionFormat s = true)
    (hs : splitLast s = some (pre, suf)) :
    ∃ t, setRevisionNumber s rev = .ok t ∧ splitLast t = some (pre, toDec (UInt64.ofNat rev)) := by
  refine ⟨pre ++ hy :: toDec (UInt64.ofNat rev), ?_, splitLast_append _ _ (toDec_noHyphen _)⟩
  unfold setRevisionNumber
  simp [hf, hs, itoaInt_small rev hrev]

/-- `ParseChainID (SetRevisionNumber id r) = r` for every revision-format id and every r < 2^63
    (for r = 0 the result `name-0` is not in revision format any more and `ParseChainID` answers 0 by default) -/
theorem setRevision_roundtrip (s : Bytes) (rev : Nat) (hrev : rev < 2 ^ 63) (hf : isRevisionFormat s = true) :
    ∃ t, setRevisionNumber s rev = .ok t ∧ parseChainID t = .ok rev := by
  have hf' := hf
  unfold isRevisionFormat at hf'
  cases hs : splitLast s with
  | none => rw [hs] at hf'; cases hf'
  | some ps =>
    obtain ⟨pre, suf⟩ := ps
    simp only [hs, Bool.and_eq_true] at hf'
    obtain ⟨t, ht, hsplit⟩ := setRevision_keeps_name s pre suf rev hrev hf hs
    refine ⟨t, ht, ?_⟩
    have htn : (UInt64.ofNat rev).toNat = rev := by
      rw [UInt64.toNat_ofNat']; exact Nat.mod_eq_of_lt (Nat.lt_trans hrev (by decide))
    unfold parseChainID isRevisionFormat
    simp only [hsplit, hf'.1, Bool.true_and]
    cases hp : isPosDecimal (toDec (UInt64.ofNat rev)) with
    | true => simp only [Bool.not_true, Bool.false_eq_true, if_false, dec_roundtrip, htn]
    | false =>
      have h0 : rev = 0 := Nat.eq_zero_of_not_pos fun h => by
        rw [isPosDecimal_toDec _ (htn.symm ▸ h)] at hp; cases hp
      simp only [Bool.not_false, if_true, h0]

/-- compares the values under the constructor: the derived `DecidableEq (Outcome _)` is slow to evaluate -/
theorem eq_ok_of {o : Outcome Bytes} {t : Bytes}
    (h : (match o with | .ok a => decide (a = t) | _ => false) = true) : o = .ok t := by
  cases o with
  | ok a => exact congrArg Outcome.ok (of_decide_eq_true h)
  | err e => cases h
  | panic e => cases h

/-- the code as it is: a revision ≥ 2^63 is written as a NEGATIVE number (`strconv.Itoa(int(revision))`), the result
    is not the chain id of that revision and does not parse back -/
theorem setRevision_beyond_int63 :
    setRevisionNumber (ofStr "huge-5") (2 ^ 63) = .ok (ofStr "huge--9223372036854775808") :=
  eq_ok_of (by decide +kernel)

/-! non-vacuity / the shapes the harness exercises -/
example : setRevisionNumber (ofStr "testnet-2-2") 1 = .ok (ofStr "testnet-2-1")
        ∧ setRevisionNumber (ofStr "net-20-2") 1 = .ok (ofStr "net-20-1")
        ∧ setRevisionNumber (ofStr "a-1-1") 2 = .ok (ofStr "a-1-2")
        ∧ setRevisionNumber (ofStr "x9-9") 10 = .ok (ofStr "x9-10")
        ∧ setRevisionNumber (ofStr "zero-1") 0 = .ok (ofStr "zero-0")
        ∧ parseChainID (ofStr "zero-0") = .ok 0
        ∧ parseChainID (ofStr "a-1-2-3-7") = .ok 7
        ∧ isRevisionFormat (ofStr "plain") = false ∧ isRevisionFormat (ofStr "x--1") = false
        ∧ isRevisionFormat (ofStr "x-01") = false
        ∧ parseChainID (ofStr "big-99999999999999999999") = .panic "regex allowed non-number value" :=
  ⟨eq_ok_of (by decide +kernel), eq_ok_of (by decide +kernel), eq_ok_of (by decide +kernel), eq_ok_of (by decide +kernel),
    eq_ok_of (by decide +kernel), by decide +kernel⟩

end TM.ChainId
