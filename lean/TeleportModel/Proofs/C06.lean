import TeleportModel.Model.Auth
import TeleportModel.Model.Guard
import TeleportModel.Lemmas.Outcome
/-
C06 — only relayers, the TSS account and the chain's own modules can drive the bridge.
(a) message level: theorems about `TM.Auth` (this file, first part);
(b) contract level: theorems about `TM.Guard` (second part).
All statements are over arbitrary registries, client configurations, stores and histories.
-/
namespace TM.Auth

theorem getRelayer_register (reg : Registry) (r : Relayer) (a : Str) :
    getRelayer (register reg r) a = if r.address = a then some r else getRelayer reg a := by
  fun_induction register reg r with
  | case1 => rfl
  | case2 x rest hx => by_cases ha : r.address = a <;> simp only [getRelayer, hx, ha, ↓reduceIte]
  | case3 x rest hx hlt => rfl
  | case4 x rest hx hlt ih =>
    by_cases hxa : x.address = a
    · have hra : ¬r.address = a := fun h => hx (hxa.trans h.symm)
      simp only [getRelayer, hxa, hra, ↓reduceIte]
    · simp only [getRelayer, hxa, ih, ↓reduceIte]

theorem chainsOf_register (reg : Registry) (r : Relayer) (a : Str) :
    chainsOf (register reg r) a = if a = r.address then r.chains else chainsOf reg a := by
  unfold chainsOf
  rw [getRelayer_register]
  by_cases h : a = r.address
  · rw [if_pos h.symm, if_pos h]
  · rw [if_neg (Ne.symm h), if_neg h]

theorem authRelayer_iff {reg : Registry} {chain a : Str} :
    authRelayer reg chain a = true ↔ chain ∈ chainsOf reg a :=
  List.contains_iff_mem

theorem getClient_setClient_other {cs : Clients} {a b : Str} {c : Client} (h : b ≠ a) :
    getClient (setClient cs a c) b = getClient cs b := by
  fun_induction setClient cs a c with
  | case1 => exact if_neg (Ne.symm h)
  | case2 x rest => simp only [getClient, if_neg (Ne.symm h)]
  | case3 k x rest hk ih => simp only [getClient, ih]

/-- `Addresses[i]` for the FIRST index i with `Chains[i] = c`. -/
def FirstMatch (chains addrs : List Str) (c a : Str) : Prop :=
  ∃ i : Nat, chains[i]? = some c ∧ addrs[i]? = some a ∧ ∀ j : Nat, j < i → chains[j]? ≠ some c

theorem zipFind_found_first {cs as : List Str} {c a : Str} (h : zipFind cs as c = .found a) :
    FirstMatch cs as c a := by
  fun_induction zipFind cs as c with
  | case1 => cases h
  | case2 x cs => cases h
  | case3 x cs c hx ih =>
    obtain ⟨i, _, h2, _⟩ := ih h
    cases h2
  | case4 x cs y as =>
    cases h
    exact ⟨0, rfl, rfl, fun j hj => absurd hj (Nat.not_lt_zero j)⟩
  | case5 x cs y as c hx ih =>
    obtain ⟨i, h1, h2, h3⟩ := ih h
    refine ⟨i + 1, h1, h2, fun j hj => ?_⟩
    cases j with
    | zero => exact fun h0 => hx (Option.some.inj h0)
    | succ k => exact h3 k (Nat.lt_of_succ_lt_succ hj)

theorem otherChainAddr_found {reg : Registry} {c a rl : Str} (h : otherChainAddr reg c a = .found rl) :
    ∃ ir, getRelayer reg a = some ir ∧ FirstMatch ir.chains ir.addresses c rl := by
  unfold otherChainAddr at h
  split at h
  · exact ⟨_, ‹_›, zipFind_found_first h⟩
  · cases h

theorem otherChainAddr_found_mem {reg : Registry} {c a rl : Str}
    (h : otherChainAddr reg c a = .found rl) : c ∈ chainsOf reg a := by
  obtain ⟨ir, hg, i, hi, _⟩ := otherChainAddr_found h
  unfold chainsOf
  rw [hg]
  exact List.mem_of_getElem? hi

theorem ackOf_none_of_hasAck_false {l : List (Triple × AckRec)} {t : Triple} (h : hasAck l t = false) :
    ackOf l t = none := by
  induction l with
  | nil => rfl
  | cons x xs ih =>
    obtain ⟨k, v⟩ := x
    simp only [hasAck, List.any_cons, Bool.or_eq_false_iff, beq_eq_false_iff_ne] at h
    simp only [ackOf, h.1, ↓reduceIte]
    exact ih h.2

theorem recvClass_self {st : State} {p : Pkt} (h : p.dst = st.self) :
    recvClass st p .ok = .cbOk ∧ recvClass st p .code = .cbCode ∧ recvClass st p .evmFail = .cbEvmFail :=
  have hb := bytes_beq.2 h
  ⟨if_pos hb, if_pos hb, if_pos hb⟩

theorem recvClass_other {st : State} {p : Pkt} (h : p.dst ≠ st.self) (cb : Cb) :
    recvClass st p cb = .dstNotFound :=
  if_neg (mt bytes_beq.1 h)

/-! ### what a successful run of each handler implies (the order of checks of the Go code) -/

/-- `ite_err_eq_ok` for a check that is a `Bool`, and for the commonest shape `if !ok then error`. -/
theorem passed {α : Type} {b : Bool} {e : String} {x : Outcome α} {a : α}
    (h : (if b = true then .err e else x) = .ok a) : b = false ∧ x = .ok a :=
  (ite_err_eq_ok.1 h).imp_left Bool.eq_false_iff.2

theorem passed_not {α : Type} {b : Bool} {e : String} {x : Outcome α} {a : α}
    (h : (if (!b) = true then .err e else x) = .ok a) : b = true ∧ x = .ok a :=
  (passed h).imp_left (Bool.not_eq_false' b).mp

theorem execRecv_ok {st st' : State} {s : Signer} {p : Pkt} {proofOK : Bool} {cb : Cb}
    (h : execRecv st s p proofOK cb = .ok st') :
    validatePacket st p = true ∧ st.receipts.contains p.triple = false ∧
    ∃ c, getClient st.clients p.src = some c ∧ verify c s proofOK = true ∧
    ∃ rl, otherChainAddr st.reg p.src s.raw = .found rl ∧
      ((p.dst = st.self ∨ getClient st.clients p.dst = none) →
          hasAck st.acks p.triple = false ∧
          st'.acks = (p.triple, ⟨some rl, recvClass st p cb⟩) :: st.acks) ∧
      st'.reg = st.reg := by
  unfold execRecv at h
  obtain ⟨hv, h⟩ := passed_not h
  obtain ⟨hr, h⟩ := passed h
  split at h
  · cases h
  rename_i c hc
  obtain ⟨hver, h⟩ := passed_not h
  extract_lets dstClient st1 at h
  split at h
  · cases h
  · cases h
  rename_i rl ho
  refine ⟨hv, hr, c, hc, hver, rl, ho, ?_⟩
  -- the three ways an accepted receive ends: callback on this chain, error ack for an unknown destination, relay
  by_cases hself : p.dst = st.self
  · rw [if_pos (bytes_beq.2 hself)] at h
    obtain ⟨hno, h⟩ := passed h
    unfold recvClass
    rw [if_pos (bytes_beq.2 hself)]
    cases cb <;> rw [← Outcome.ok.inj h] <;> exact ⟨fun _ => ⟨hno, rfl⟩, rfl⟩
  · rw [if_neg (mt bytes_beq.1 hself)] at h
    rw [recvClass_other hself]
    cases hd : getClient st.clients p.dst
    · have hdc : dstClient = false := congrArg Option.isSome hd
      simp only [hdc, Bool.not_false, ↓reduceIte] at h
      obtain ⟨hno, h⟩ := passed h
      rw [← Outcome.ok.inj h]
      exact ⟨fun _ => ⟨hno, rfl⟩, rfl⟩
    · have hdc : dstClient = true := congrArg Option.isSome hd
      simp only [hdc, Bool.not_true, Bool.false_eq_true, ↓reduceIte] at h
      rw [← Outcome.ok.inj h]
      exact ⟨fun hd' => (nomatch hd'.resolve_left hself), rfl⟩

theorem execUpdate_ok {st st' : State} {s : Signer} {chain : Str} {hdrOK : Bool} {newTss : Option Str}
    (h : execUpdate st s chain hdrOK newTss = .ok st') :
    authRelayer st.reg chain s.raw = true ∧
    ∃ c, getClient st.clients chain = some c ∧ checkMsg c s = true ∧ hdrOK = true ∧ st'.reg = st.reg ∧
      ∀ b, b ≠ chain → getClient st'.clients b = getClient st.clients b := by
  unfold execUpdate at h
  obtain ⟨ha, h⟩ := passed_not h
  split at h
  · cases h
  rename_i c hc
  obtain ⟨hk, h⟩ := passed_not h
  obtain ⟨hh, h⟩ := passed_not h
  refine ⟨ha, c, hc, hk, hh, ?_⟩
  split at h <;> rw [← Outcome.ok.inj h]
  · exact ⟨rfl, fun _ => getClient_setClient_other⟩
  · exact ⟨rfl, fun _ _ => rfl⟩
  · exact ⟨rfl, fun _ => getClient_setClient_other⟩

theorem execAck_ok {fold : Str → Str → Bool} {st st' : State} {s : Signer} {p : Pkt} {genuine proofOK : Bool}
    {rl : Str} {dec evm : Bool}
    (h : execAck fold st s p genuine proofOK rl dec evm = .ok st') :
    validatePacket st p = true ∧ st.commits.contains p.triple = true ∧ genuine = true ∧
    (∃ c, getClient st.clients p.dst = some c ∧ verify c s proofOK = true) ∧ dec = true ∧
    (p.src = st.self → evm = true ∧ ∃ r, teleportAddr fold st.reg p.dst rl = .found r) ∧
    st'.reg = st.reg := by
  unfold execAck at h
  obtain ⟨hv, h⟩ := passed_not h
  obtain ⟨hcg, h⟩ := passed_not h
  split at h
  · cases h
  rename_i c hc
  obtain ⟨hver, h⟩ := passed_not h
  extract_lets st1 st2 at h
  obtain ⟨_, h⟩ := passed h
  obtain ⟨hdec, h⟩ := passed_not h
  have hreg : st2.reg = st.reg := (apply_ite State.reg _ _ _).trans (ite_self _)
  refine ⟨hv, (Bool.and_eq_true_iff.1 hcg).1, (Bool.and_eq_true_iff.1 hcg).2, ⟨c, hc, hver⟩, hdec, ?_⟩
  by_cases hs : p.src = st.self
  · rw [if_pos (bytes_beq.2 hs)] at h
    split at h
    · cases h
    · cases h
    rename_i r ht
    obtain ⟨hevm, h⟩ := passed_not h
    rw [← Outcome.ok.inj h]
    exact ⟨fun _ => ⟨hevm, r, ht⟩, hreg⟩
  · rw [if_neg (mt bytes_beq.1 hs)] at h
    rw [← Outcome.ok.inj h]
    exact ⟨fun hs' => absurd hs' hs, hreg⟩

theorem deliver_accepted {fold : Str → Str → Bool} {st : State} {m : Msg} (h : (deliver fold st m).2 = true) :
    exec fold st m = .ok (deliver fold st m).1 := by
  unfold deliver at h ⊢
  split at h
  · rename_i hx; rw [hx]
  · cases h
  · cases h

/-- For a TSS client the verdict does not depend on anything the message carries as proof: `packet.go`
replaces the proof by the signer unconditionally, so the external proof verdict (and with it the message's
own `ProofCommitment` / `ProofAcked` bytes — empty, garbage, the TSS address itself, anybody's address) is
irrelevant; only `msg.Signer = TssAddress` counts. -/
theorem tss_proof_field_irrelevant (a : Str) (s : Signer) (p1 p2 : Bool) :
    verify (.tss a) s p1 = verify (.tss a) s p2 ∧ (verify (.tss a) s p1 = true ↔ s.raw = a) :=
  ⟨rfl, bytes_beq⟩

/-- An accepted `MsgUpdateClient` was signed by an account registered as relayer for exactly that chain,
and for a TSS-secured chain by the configured TSS account. -/
theorem update_needs_relayer (fold : Str → Str → Bool) (st : State) (s : Signer) (chain : Str)
    (hdrOK : Bool) (newTss : Option Str)
    (h : (deliver fold st (.update s chain hdrOK newTss)).2 = true) :
    chain ∈ chainsOf st.reg s.raw ∧
    (∃ c, getClient st.clients chain = some c) ∧
    (∀ a, getClient st.clients chain = some (.tss a) → s.canon = a) := by
  obtain ⟨ha, c, hc, hk, _⟩ := execUpdate_ok (deliver_accepted h)
  refine ⟨authRelayer_iff.1 ha, ⟨c, hc⟩, fun a hca => ?_⟩
  cases hc.symm.trans hca
  exact bytes_beq.1 hk

/-- An accepted `MsgRecvPacket` was signed by an account registered as relayer for the packet's source
chain; the source chain's client verified the packet; for a TSS-secured source chain the signer is the
configured TSS address. -/
theorem recv_needs_relayer (fold : Str → Str → Bool) (st : State) (s : Signer) (p : Pkt) (proofOK : Bool) (cb : Cb)
    (h : (deliver fold st (.recv s p proofOK cb)).2 = true) :
    p.src ∈ chainsOf st.reg s.raw ∧
    (∃ c, getClient st.clients p.src = some c ∧ verify c s proofOK = true) ∧
    (∀ a, getClient st.clients p.src = some (.tss a) → s.raw = a) := by
  obtain ⟨_, _, c, hc, hver, rl, ho, _⟩ := execRecv_ok (deliver_accepted h)
  refine ⟨otherChainAddr_found_mem ho, ⟨c, hc, hver⟩, fun a hca => ?_⟩
  cases hc.symm.trans hca
  exact bytes_beq.1 hver

/-- An accepted `MsgAcknowledgement` for a packet sent to a TSS-secured chain was signed by the
configured TSS address (and for every client type the destination chain's client verified the ack). -/
theorem ack_tss (fold : Str → Str → Bool) (st : State) (s : Signer) (p : Pkt) (genuine proofOK : Bool)
    (rl : Str) (dec evm : Bool)
    (h : (deliver fold st (.ack s p genuine proofOK rl dec evm)).2 = true) :
    (∃ c, getClient st.clients p.dst = some c ∧ verify c s proofOK = true) ∧
    (∀ a, getClient st.clients p.dst = some (.tss a) → s.raw = a) := by
  obtain ⟨_, _, _, ⟨c, hc, hver⟩, _⟩ := execAck_ok (deliver_accepted h)
  refine ⟨⟨c, hc, hver⟩, fun a hca => ?_⟩
  cases hc.symm.trans hca
  exact bytes_beq.1 hver

/-- An accepted acknowledgement of a packet this chain sent pays a registered relayer: the ack's relayer
field resolves (`GetRelayerAddressOnTeleport`) to a registered address. -/
theorem ack_payout_resolves (fold : Str → Str → Bool) (st : State) (s : Signer) (p : Pkt) (genuine proofOK : Bool)
    (rl : Str) (dec evm : Bool)
    (h : (deliver fold st (.ack s p genuine proofOK rl dec evm)).2 = true) (hsrc : p.src = st.self) :
    ∃ r, teleportAddr fold st.reg p.dst rl = .found r :=
  ((execAck_ok (deliver_accepted h)).2.2.2.2.2.1 hsrc).2

/-- The acknowledgement written by an accepted receive carries, as fee recipient, exactly
`Addresses[i]` of the submitting signer's own registration, i the first index with `Chains[i] = p.src`;
no acknowledgement existed for the packet before. -/
theorem ack_relayer_field (fold : Str → Str → Bool) (st : State) (s : Signer) (p : Pkt) (proofOK : Bool) (cb : Cb)
    (h : (deliver fold st (.recv s p proofOK cb)).2 = true)
    (hdst : p.dst = st.self ∨ getClient st.clients p.dst = none) :
    ∃ ir rl, getRelayer st.reg s.raw = some ir ∧ FirstMatch ir.chains ir.addresses p.src rl ∧
      ackOf (deliver fold st (.recv s p proofOK cb)).1.acks p.triple = some ⟨some rl, recvClass st p cb⟩ ∧
      ackOf st.acks p.triple = none := by
  obtain ⟨_, _, _, _, _, rl, ho, hack, _⟩ := execRecv_ok (deliver_accepted h)
  obtain ⟨hno, hacks⟩ := hack hdst
  obtain ⟨ir, hg, hfirst⟩ := otherChainAddr_found ho
  refine ⟨ir, rl, hg, hfirst, ?_, ackOf_none_of_hasAck_false hno⟩
  rw [hacks]
  exact if_pos rfl

/-- `ack_relayer_field` split per outcome class of the receive: whichever branch of `msg_server.RecvPacket`
writes the acknowledgement — callback returned code 0, callback returned a code ≠ 0, the callback failed at EVM
level (error ack "receive packet callback failed"), destination chain without client (error ack "dstChain not
found") — the fee recipient is the address the signer registered for the packet's source chain. -/
theorem ack_relayer_field_callback_ok (fold : Str → Str → Bool) (st : State) (s : Signer) (p : Pkt) (proofOK : Bool)
    (h : (deliver fold st (.recv s p proofOK .ok)).2 = true) (hdst : p.dst = st.self) :
    ∃ ir rl, getRelayer st.reg s.raw = some ir ∧ FirstMatch ir.chains ir.addresses p.src rl ∧
      ackOf (deliver fold st (.recv s p proofOK .ok)).1.acks p.triple = some ⟨some rl, .cbOk⟩ := by
  obtain ⟨ir, rl, h1, h2, h3, _⟩ := ack_relayer_field fold st s p proofOK .ok h (Or.inl hdst)
  exact ⟨ir, rl, h1, h2, (recvClass_self hdst).1 ▸ h3⟩

theorem ack_relayer_field_callback_code (fold : Str → Str → Bool) (st : State) (s : Signer) (p : Pkt) (proofOK : Bool)
    (h : (deliver fold st (.recv s p proofOK .code)).2 = true) (hdst : p.dst = st.self) :
    ∃ ir rl, getRelayer st.reg s.raw = some ir ∧ FirstMatch ir.chains ir.addresses p.src rl ∧
      ackOf (deliver fold st (.recv s p proofOK .code)).1.acks p.triple = some ⟨some rl, .cbCode⟩ := by
  obtain ⟨ir, rl, h1, h2, h3, _⟩ := ack_relayer_field fold st s p proofOK .code h (Or.inl hdst)
  exact ⟨ir, rl, h1, h2, (recvClass_self hdst).2.1 ▸ h3⟩

theorem ack_relayer_field_callback_evm_failure (fold : Str → Str → Bool) (st : State) (s : Signer) (p : Pkt) (proofOK : Bool)
    (h : (deliver fold st (.recv s p proofOK .evmFail)).2 = true) (hdst : p.dst = st.self) :
    ∃ ir rl, getRelayer st.reg s.raw = some ir ∧ FirstMatch ir.chains ir.addresses p.src rl ∧
      ackOf (deliver fold st (.recv s p proofOK .evmFail)).1.acks p.triple = some ⟨some rl, .cbEvmFail⟩ := by
  obtain ⟨ir, rl, h1, h2, h3, _⟩ := ack_relayer_field fold st s p proofOK .evmFail h (Or.inl hdst)
  exact ⟨ir, rl, h1, h2, (recvClass_self hdst).2.2 ▸ h3⟩

theorem ack_relayer_field_dst_not_found (fold : Str → Str → Bool) (st : State) (s : Signer) (p : Pkt) (proofOK : Bool) (cb : Cb)
    (h : (deliver fold st (.recv s p proofOK cb)).2 = true) (hne : p.dst ≠ st.self)
    (hnone : getClient st.clients p.dst = none) :
    ∃ ir rl, getRelayer st.reg s.raw = some ir ∧ FirstMatch ir.chains ir.addresses p.src rl ∧
      ackOf (deliver fold st (.recv s p proofOK cb)).1.acks p.triple = some ⟨some rl, .dstNotFound⟩ := by
  obtain ⟨ir, rl, h1, h2, h3, _⟩ := ack_relayer_field fold st s p proofOK cb h (Or.inr hnone)
  exact ⟨ir, rl, h1, h2, recvClass_other hne cb ▸ h3⟩

/-- A rejected message (error or recovered panic) leaves the whole state as it was. -/
theorem rejected_unchanged (fold : Str → Str → Bool) (st : State) (m : Msg)
    (h : (deliver fold st m).2 = false) : (deliver fold st m).1 = st := by
  unfold deliver at h ⊢
  split at h
  · cases h
  · rfl
  · rfl

/-- A rejected registration proposal leaves the whole state as it was. -/
theorem rejected_registration_unchanged (st : State) (ok : Bool) (r : Relayer)
    (h : (applyReg st ok r).2 = false) : (applyReg st ok r).1 = st := by
  unfold applyReg at h ⊢
  by_cases hv : validRegistration ok r = true
  · rw [if_pos hv] at h
    cases h
  · rw [if_neg hv]

/-! ### registration is per chain, over arbitrary histories -/

theorem deliver_reg (fold : Str → Str → Bool) (st : State) (m : Msg) : (deliver fold st m).1.reg = st.reg := by
  cases hd : (deliver fold st m).2 with
  | false => rw [rejected_unchanged fold st m hd]
  | true =>
    cases m with
    | update s chain hdrOK newTss =>
      obtain ⟨_, _, _, _, _, hr, _⟩ := execUpdate_ok (deliver_accepted hd)
      exact hr
    | recv s p proofOK cb =>
      obtain ⟨_, _, _, _, _, _, _, _, hr⟩ := execRecv_ok (deliver_accepted hd)
      exact hr
    | ack s p genuine proofOK rl dec evm => exact (execAck_ok (deliver_accepted hd)).2.2.2.2.2.2

theorem run_cons (fold : Str → Str → Bool) (st : State) (o : Op) (rest : List Op) :
    (run fold st (o :: rest)).1 = (run fold (stepOp fold st o).1 rest).1 := rfl

theorem stepOp_reg (fold : Str → Str → Bool) (st : State) (o : Op) :
    (stepOp fold st o).1.reg =
      match o with
      | .reg ok r => if validRegistration ok r = true then register st.reg r else st.reg
      | _ => st.reg := by
  cases o with
  | reg ok r => exact apply_ite (fun x : State × Bool => x.1.reg) _ _ _
  | regDry ok r => rfl
  | restart => rfl
  | msg m => exact deliver_reg fold st m

/-- chains of the LAST valid registration of address `a` in a history (`d` if there is none). -/
def lastRegChains : List Op → Str → List Str → List Str
  | [], _, d => d
  | .reg ok r :: rest, a, d =>
    lastRegChains rest a (if validRegistration ok r = true ∧ a = r.address then r.chains else d)
  | .regDry _ _ :: rest, a, d => lastRegChains rest a d      -- a discarded registration does not count
  | .restart :: rest, a, d => lastRegChains rest a d          -- a restart changes nothing
  | .msg _ :: rest, a, d => lastRegChains rest a d

theorem chainsOf_run (fold : Str → Str → Bool) (st : State) (ops : List Op) (a : Str) :
    chainsOf (run fold st ops).1.reg a = lastRegChains ops a (chainsOf st.reg a) := by
  induction ops generalizing st with
  | nil => rfl
  | cons o rest ih =>
    rw [run_cons, ih, stepOp_reg]
    cases o with
    | reg ok r =>
      simp only [lastRegChains]
      by_cases hv : validRegistration ok r = true
      · rw [if_pos hv, chainsOf_register]
        simp only [hv, true_and]
      · rw [if_neg hv, if_neg (fun hx => hv hx.1)]
    | _ => rfl

/-- at every point of every history, an accepted update / receive comes from a signer whose most recent
valid registration lists the chain. -/
theorem history_accepts_only_last_registered (fold : Str → Str → Bool) (st : State) (pre : List Op) (s : Signer) :
    (∀ chain hdrOK newTss, (deliver fold (run fold st pre).1 (.update s chain hdrOK newTss)).2 = true →
        chain ∈ lastRegChains pre s.raw (chainsOf st.reg s.raw)) ∧
    (∀ p proofOK cb, (deliver fold (run fold st pre).1 (.recv s p proofOK cb)).2 = true →
        p.src ∈ lastRegChains pre s.raw (chainsOf st.reg s.raw)) := by
  rw [← chainsOf_run fold st pre s.raw]
  exact ⟨fun chain hdrOK newTss h => (update_needs_relayer _ _ _ _ _ _ h).1,
         fun p proofOK cb h => (recv_needs_relayer _ _ _ _ _ _ h).1⟩

/-- **Registration is per chain**, at every point of every history of registrations (including
re-registrations, which overwrite) and messages: if chain `c` is not in the chain list of the signer's
most recent valid registration, no client update for `c` and no receive of a packet from `c` signed by
that address is accepted — whatever else the signer is registered for. -/
theorem registration_is_per_chain (fold : Str → Str → Bool) (st : State) (ops : List Op) (s : Signer) (c : Str)
    (h : c ∉ lastRegChains ops s.raw (chainsOf st.reg s.raw)) :
    (∀ hdrOK newTss, (deliver fold (run fold st ops).1 (.update s c hdrOK newTss)).2 = false) ∧
    (∀ p proofOK cb, p.src = c → (deliver fold (run fold st ops).1 (.recv s p proofOK cb)).2 = false) := by
  obtain ⟨hupd, hrecv⟩ := history_accepts_only_last_registered fold st ops s
  exact ⟨fun hdrOK newTss => Bool.eq_false_iff.2 fun hd => h (hupd c hdrOK newTss hd),
         fun p proofOK cb hp => Bool.eq_false_iff.2 fun hd => h (hp ▸ hrecv p proofOK cb hd)⟩

theorem lastRegChains_append (xs ys : List Op) (a : Str) (d : List Str) :
    lastRegChains (xs ++ ys) a d = lastRegChains ys a (lastRegChains xs a d) := by
  induction xs generalizing d with
  | nil => rfl
  | cons o rest ih => cases o <;> exact ih _

theorem lastRegChains_untouched {ops : List Op} {a : Str} (d : List Str)
    (h : ∀ ok r, Op.reg ok r ∈ ops → validRegistration ok r = true → r.address ≠ a) : lastRegChains ops a d = d := by
  induction ops with
  | nil => rfl
  | cons o rest ih =>
    have hrest := ih (fun ok r hm => h ok r (List.mem_cons_of_mem _ hm))
    cases o with
    | reg ok r =>
      simp only [lastRegChains]
      rw [if_neg (fun hx => h ok r List.mem_cons_self hx.1 hx.2.symm)]
      exact hrest
    | _ => exact hrest

/-- the statement in the "registering r for chains X" form: after a valid registration of `r` for the
chain list `X`, and any later history that does not register `r` again, `r` is accepted for no chain
outside `X`. -/
theorem registration_confers_only_listed_chains (fold : Str → Str → Bool) (st : State) (pre post : List Op)
    (r : Relayer) (ok : Bool) (hvalid : validRegistration ok r = true)
    (hpost : ∀ ok' r', Op.reg ok' r' ∈ post → r'.address ≠ r.address)
    (s : Signer) (hs : s.raw = r.address) (c : Str) (hc : c ∉ r.chains) :
    (∀ hdrOK newTss,
      (deliver fold (run fold st (pre ++ Op.reg ok r :: post)).1 (.update s c hdrOK newTss)).2 = false) ∧
    (∀ p proofOK cb, p.src = c →
      (deliver fold (run fold st (pre ++ Op.reg ok r :: post)).1 (.recv s p proofOK cb)).2 = false) := by
  apply registration_is_per_chain
  rw [hs, lastRegChains_append]
  simp only [lastRegChains]
  rw [if_pos ⟨hvalid, trivial⟩, lastRegChains_untouched _ (fun ok' r' hm _ => hpost ok' r' hm)]
  exact hc

/-- erase the registrations that ran on a discarded context branch -/
def committed : List Op → List Op
  | [] => []
  | .regDry _ _ :: rest => committed rest
  | o :: rest => o :: committed rest

/-- **A discarded registration confers nothing**: a registration handler run on a context branch that is thrown
away (the dry run of gov `SubmitProposal`, a transaction or proposal execution that fails later) leaves no trace —
after ANY history the whole state, hence every later verdict, is the one reached by the same history with the
discarded registrations erased: authorisation is a function of the COMMITTED registry only. (In the model
`applyRegDry` returns the state unchanged by definition; that the store never receives a discarded branch is what the
differential run checks.) -/
theorem discarded_registration_confers_nothing (fold : Str → Str → Bool) (st : State) (ops : List Op) :
    (run fold st ops).1 = (run fold st (committed ops)).1 := by
  induction ops generalizing st with
  | nil => rfl
  | cons o rest ih => cases o <;> simp only [committed, run_cons] <;> exact ih _

/-- the verdict of every message after a history equals its verdict after the history without the discarded
registrations. -/
theorem verdict_ignores_discarded (fold : Str → Str → Bool) (st : State) (ops : List Op) (m : Msg) :
    deliver fold (run fold st ops).1 m = deliver fold (run fold st (committed ops)).1 m := by
  rw [discarded_registration_confers_nothing]

/-- `lastRegChains` skips discarded registrations; with `history_accepts_only_last_registered`: whatever was dry-run, an
accepted update / receive comes from a signer whose most recent COMMITTED valid registration lists the chain. -/
theorem lastRegChains_committed (ops : List Op) (a : Str) (d : List Str) :
    lastRegChains (committed ops) a d = lastRegChains ops a d := by
  induction ops generalizing d with
  | nil => rfl
  | cons o rest ih => cases o <;> exact ih _

/-! ### second instance: what one counterparty's messages leave alone -/

/-- frame: a client update for chain `a` — accepted or not — leaves the client of every other chain `b`
(another Tendermint counterparty, another TSS chain) exactly as it was, and touches no registration. -/
theorem update_frame (fold : Str → Str → Bool) (st : State) (s : Signer) (a b : Str) (hdrOK : Bool)
    (newTss : Option Str) (h : b ≠ a) :
    getClient (deliver fold st (.update s a hdrOK newTss)).1.clients b = getClient st.clients b ∧
    (deliver fold st (.update s a hdrOK newTss)).1.reg = st.reg := by
  refine ⟨?_, deliver_reg _ _ _⟩
  cases hd : (deliver fold st (.update s a hdrOK newTss)).2 with
  | false => rw [rejected_unchanged fold st _ hd]
  | true =>
    obtain ⟨_, _, _, _, _, _, hcl⟩ := execUpdate_ok (deliver_accepted hd)
    exact hcl b h

/-! ### start from a genesis document: the validated sections own the reserved keys -/

/-- value written last for key `k` by a list of writes (`d` if none). -/
def lastW {α : Type} (key : α → Str × GKey) (val : α → GVal) : List α → Str × GKey → Option GVal → Option GVal
  | [], _, d => d
  | x :: rest, k, d => lastW key val rest k (if key x = k then some (val x) else d)

theorem cget_cset (s : CStore) (k k' : Str × GKey) (v : GVal) :
    cget (cset s k' v) k = if k' = k then some v else cget s k := rfl

theorem cget_foldl {α : Type} (key : α → Str × GKey) (val : α → GVal) (l : List α) (s0 : CStore) (k : Str × GKey) :
    cget (l.foldl (fun s x => cset s (key x) (val x)) s0) k = lastW key val l k (cget s0 k) := by
  induction l generalizing s0 with
  | nil => rfl
  | cons x rest ih =>
    simp only [List.foldl_cons, lastW]
    rw [ih, cget_cset]

theorem lastW_some {α : Type} {key : α → Str × GKey} {val : α → GVal} {l : List α} {k : Str × GKey} {v : GVal}
    (h : lastW key val l k none = some v) (d : Option GVal) : lastW key val l k d = some v := by
  induction l generalizing d with
  | nil => cases h
  | cons x rest ih =>
    simp only [lastW] at h ⊢
    by_cases hk : key x = k
    · rwa [if_pos hk] at h ⊢
    · rw [if_neg hk] at h ⊢
      exact ih h d

theorem lastW_untouched {α : Type} (key : α → Str × GKey) (val : α → GVal) (l : List α) (k : Str × GKey) (d : Option GVal)
    (h : ∀ x ∈ l, key x ≠ k) : lastW key val l k d = d := by
  induction l generalizing d with
  | nil => rfl
  | cons x rest ih =>
    simp only [lastW, h x (by simp), ↓reduceIte]
    exact ih d (fun y hy => h y (List.mem_cons_of_mem _ hy))

/-- the client state the `clients` section lists LAST for a chain. -/
def lastClient (d : GenDoc) (ch : Str) : Option GVal :=
  lastW (fun (c : Str × Client × Bool) => (c.1, GKey.clientState)) (fun c => GVal.client c.2.1) d.clients (ch, .clientState) none

/-- **The clients section wins**: after the import, the client state read back for a chain listed in the `clients`
section is exactly that section's — whatever `clients_metadata` holds under the reserved key `clientState` (or any
other key), whatever the consensus section holds. Who is configured (the TSS account of a TSS client) is what was
VALIDATED. -/
theorem import_clients_section_wins (d : GenDoc) (ch : Str) (v : GVal) (h : lastClient d ch = some v) :
    cget (importStore d) (ch, .clientState) = some v := by
  unfold importStore
  rw [cget_foldl, lastW_untouched, cget_foldl]
  · exact lastW_some h _
  · intro x _ hx    -- the consensus section, imported last, writes no `clientState` key
    cases hx

/-- the same for the consensus states the `clients_consensus` section lists: metadata under `consensusStates/<h>`
for a LISTED height is overwritten. (Metadata under a reserved consensus key of an UNLISTED height survives
the import — that is how the code behaves, see docs/C06.md.) -/
theorem import_consensus_section_wins (d : GenDoc) (ch : Str) (hgt : Nat) (v : GVal)
    (h : lastW (fun (c : Str × Nat × Nat) => (c.1, GKey.consensus c.2.1)) (fun c => GVal.cons c.2.2) d.consensus
          (ch, .consensus hgt) none = some v) :
    cget (importStore d) (ch, .consensus hgt) = some v := by
  unfold importStore
  rw [cget_foldl]
  exact lastW_some h _

theorem invalid_document_starts_nothing (st : State) (d : GenDoc) (h : d.valid = false) : startFrom st d = (st, false) := by
  simp [startFrom, h]

/-- erase the restarts of a history -/
def withoutRestarts : List Op → List Op
  | [] => []
  | .restart :: rest => withoutRestarts rest
  | o :: rest => o :: withoutRestarts rest

/-- The model's `Op.restart` is the identity on the state BY DEFINITION (`stepOp`, Model/Auth.lean): this theorem
only records that modelling decision. That a genesis export followed by a re-import (module-level or whole application)
loses and invents nothing is not proved in Lean; it is covered by the differential run of the harness only. -/
theorem restart_identity (fold : Str → Str → Bool) (st : State) : stepOp fold st .restart = (st, true) := rfl

/-- Consequence of that definition: the state after any history — registry, clients, receipts, commitments, acks —
and hence every later verdict is that of the same history without its `Op.restart` elements; all theorems above range
over histories with restarts (`Op.restart` is an ordinary element of the `ops` they quantify over). -/
theorem restarts_change_nothing (fold : Str → Str → Bool) (st : State) (ops : List Op) :
    (run fold st ops).1 = (run fold st (withoutRestarts ops)).1 := by
  induction ops generalizing st with
  | nil => rfl
  | cons o rest ih => cases o <;> simp only [withoutRestarts, run_cons] <;> exact ih _

/-! ### the payout direction: `GetRelayerAddressOnTeleport` -/

theorem scanOne_hit {fold : Str → Str → Bool} {cs xs : List Str} {ch a : Str}
    (h : scanOne fold cs xs ch a = .hit) :
    ∃ (i : Nat) (x : Str), cs[i]? = some ch ∧ xs[i]? = some x ∧ fold x a = true := by
  fun_induction scanOne fold cs xs ch a with
  | case1 => cases h
  | case2 c cs => cases h
  | case3 c cs ch a hc ih =>
    obtain ⟨i, x, _, h2, _⟩ := ih h
    cases h2
  | case4 c cs y ys ch a hc =>
    obtain ⟨hc, hf⟩ := Bool.and_eq_true_iff.1 hc
    exact ⟨0, y, congrArg some (of_decide_eq_true hc), rfl, hf⟩
  | case5 c cs y ys ch a hc ih =>
    obtain ⟨i, x, h1, h2, h3⟩ := ih h
    exact ⟨i + 1, x, h1, h2, h3⟩

/-- the account paid for an acknowledgement is a registered relayer for that chain whose registered
counterparty address case-folds to the acknowledgement's relayer field. -/
theorem payout_is_registered (fold : Str → Str → Bool) (reg : Registry) (ch a r : Str)
    (h : teleportAddr fold reg ch a = .found r) :
    ∃ ir, ir ∈ reg ∧ ir.address = r ∧ ∃ (i : Nat) (x : Str), ir.chains[i]? = some ch ∧ ir.addresses[i]? = some x ∧ fold x a = true := by
  fun_induction teleportAddr fold reg ch a with
  | case1 => cases h
  | case2 ir rest ch a hs =>
    cases h
    exact ⟨ir, List.mem_cons_self, rfl, scanOne_hit hs⟩
  | case3 ir rest ch a hs => cases h
  | case4 ir rest ch a hs ih =>
    obtain ⟨ir', hm, hrest⟩ := ih h
    exact ⟨ir', List.mem_cons_of_mem _ hm, hrest⟩

/-! ### no index panic: validated registrations keep `len(Chains) = len(Addresses)` -/

def RegWF (reg : Registry) : Prop := ∀ ir ∈ reg, ir.chains.length = ir.addresses.length

theorem register_mem {reg : Registry} {r x : Relayer} (h : x ∈ register reg r) : x = r ∨ x ∈ reg := by
  fun_induction register reg r with
  | case1 => exact .inl (List.mem_singleton.1 h)
  | case2 y rest hy => exact (List.mem_cons.1 h).imp_right (List.mem_cons_of_mem _)
  | case3 y rest hy hlt => exact List.mem_cons.1 h
  | case4 y rest hy hlt ih =>
    rcases List.mem_cons.1 h with h | h
    · exact .inr (h ▸ List.mem_cons_self)
    · exact (ih h).imp_right (List.mem_cons_of_mem _)

theorem regWF_run (fold : Str → Str → Bool) (st : State) (ops : List Op) (h : RegWF st.reg) :
    RegWF (run fold st ops).1.reg := by
  induction ops generalizing st with
  | nil => exact h
  | cons o rest ih =>
    rw [run_cons]
    apply ih
    rw [stepOp_reg]
    cases o with
    | reg ok r =>
      by_cases hv : validRegistration ok r = true
      · simp only [if_pos hv]
        intro x hx
        rcases register_mem hx with rfl | hx
        · simp only [validRegistration, Bool.and_eq_true, decide_eq_true_eq] at hv
          exact hv.1.2.symm
        · exact h x hx
      · simp only [if_neg hv]
        exact h
    | _ => exact h

theorem zipFind_no_panic {cs as : List Str} (c : Str) (h : cs.length = as.length) :
    zipFind cs as c ≠ .indexPanic := by
  fun_induction zipFind cs as c with
  | case1 => exact Lookup.noConfusion
  | case2 x cs => cases h
  | case3 x cs c hx ih => cases h
  | case4 x cs y as => exact Lookup.noConfusion
  | case5 x cs y as c hx ih => exact ih (Nat.succ.inj h)

theorem getRelayer_mem {reg : Registry} {a : Str} {ir : Relayer} (h : getRelayer reg a = some ir) : ir ∈ reg := by
  fun_induction getRelayer reg a with
  | case1 => cases h
  | case2 x rest hx =>
    cases h
    exact List.mem_cons_self
  | case3 x rest hx ih => exact List.mem_cons_of_mem _ (ih h)

/-- In every state reachable from a well-formed registry through validated registrations and messages,
`GetRelayerAddressOnOtherChain` never indexes `Addresses` out of range. -/
theorem no_index_panic (fold : Str → Str → Bool) (st : State) (ops : List Op) (h : RegWF st.reg) (c a : Str) :
    otherChainAddr (run fold st ops).1.reg c a ≠ .indexPanic := by
  have hw := regWF_run fold st ops h
  unfold otherChainAddr
  cases hg : getRelayer (run fold st ops).1.reg a with
  | none => exact Lookup.noConfusion
  | some ir => exact zipFind_no_panic c (hw ir (getRelayer_mem hg))

/-! ### non-vacuity: the hypotheses of the theorems are satisfiable on a non-trivial state -/

def exReg : Registry :=
  register (register (register [] ⟨[114, 49], [[115, 114, 99], [116, 115, 115]], [[65], [66]]⟩)
    ⟨[114, 50], [[116, 115, 115], [115, 114, 99], [115, 114, 99]], [[67], [97], [68]]⟩)
    ⟨[114, 49], [[116, 115, 115]], [[69]]⟩          -- re-registration of r1: loses "src"
def exState : State :=
  { self := [84], reg := exReg, clients := [([116, 115, 115], .tss [114, 50]), ([115, 114, 99], .other 0)],
    receipts := [], commits := [⟨[84], [116, 115, 115], 4⟩], acks := [] }

-- r2 (registered for "tss" and "src", and the TSS address of "tss") is accepted ...
example : (deliver asciiFold exState (.recv ⟨[114, 50], [114, 50]⟩ ⟨[116, 115, 115], [84], 1, true⟩ false .evmFail)).2 = true := by decide +kernel
example : (deliver asciiFold exState (.recv ⟨[114, 50], [114, 50]⟩ ⟨[115, 114, 99], [84], 1, true⟩ true .ok)).2 = true := by decide +kernel
example : (deliver asciiFold exState (.update ⟨[114, 50], [114, 50]⟩ [115, 114, 99] true none)).2 = true := by decide +kernel
example : (deliver asciiFold exState (.ack ⟨[114, 50], [114, 50]⟩ ⟨[84], [116, 115, 115], 4, true⟩ true false [101] true true)).2 = true := by decide +kernel
-- ... the written ack carries the FIRST address r2 registered for "src" ([97], not [68])
example : ackOf (deliver asciiFold exState (.recv ⟨[114, 50], [114, 50]⟩ ⟨[115, 114, 99], [84], 1, true⟩ true .code)).1.acks
    ⟨[115, 114, 99], [84], 1⟩ = some ⟨some [97], .cbCode⟩ := by decide +kernel
-- ... r1 lost "src" by its re-registration, and is not the TSS account of "tss"
example : (deliver asciiFold exState (.recv ⟨[114, 49], [114, 49]⟩ ⟨[115, 114, 99], [84], 1, true⟩ true .ok)).2 = false := by decide +kernel
example : (deliver asciiFold exState (.recv ⟨[114, 49], [114, 49]⟩ ⟨[116, 115, 115], [84], 1, true⟩ true .ok)).2 = false := by decide +kernel
example : RegWF exReg := by unfold RegWF; decide +kernel

end TM.Auth

/-! ## (b) contract level -/
namespace TM.Guard

theorem permits_iff {k : Consts} {g : CallerClass} {r a : Address} (hr : required k g = some r) :
    permits k g a = true ↔ a = r := by
  unfold permits
  rw [hr]
  exact bytes_beq

/-- **Only the required module / contract address can exercise a privileged method**: for every method
with a guard and every call path whose effective caller is not the required address, the call reverts and
the contract state is unchanged — whatever the method body would do, whatever the state. -/
theorem privileged_only_modules {σ : Type} (k : Consts) (body : Method → σ → Option σ) (m : Method)
    (cp : CallPath) (s : σ) (g : CallerClass) (r : Address)
    (hg : guardOf m = some g) (hr : required k g = some r) (hc : callerOf k cp ≠ r) :
    call k body m cp s = (s, false) := by
  unfold call
  rw [hg]
  exact if_neg (mt (permits_iff hr).1 hc)

/-- a selector that is not in the table does not exist: the dispatcher reverts. -/
theorem unknown_method_reverts {σ : Type} (k : Consts) (body : Method → σ → Option σ) (m : Method)
    (cp : CallPath) (s : σ) (hg : guardOf m = none) : call k body m cp s = (s, false) := by
  unfold call
  rw [hg]

/-- The contract state changes only in a call that does not revert and runs with write access to the target. -/
theorem call_state {σ : Type} (k : Consts) (body : Method → σ → Option σ) (m : Method) (cp : CallPath) (s : σ) :
    (call k body m cp s).1 = s ∨ (call k body m cp s).2 = true ∧ writesTarget cp = true := by
  unfold call
  split
  · exact .inl rfl
  split
  · split
    · cases writesTarget cp
      · exact .inl rfl
      · exact .inr ⟨rfl, rfl⟩    -- the one branch that returns the body's state: guard passed, body succeeded
    · exact .inl rfl
  · exact .inl rfl

/-- a call that reverts — for whatever reason — changes no contract state. -/
theorem revert_unchanged {σ : Type} (k : Consts) (body : Method → σ → Option σ) (m : Method)
    (cp : CallPath) (s : σ) (h : (call k body m cp s).2 = false) : (call k body m cp s).1 = s :=
  (call_state k body m cp s).resolve_right fun hc => Bool.false_ne_true (h.symm.trans hc.1)

/-- the positive control: the required address reaches the body. -/
theorem required_caller_runs_body {σ : Type} (k : Consts) (body : Method → σ → Option σ) (m : Method)
    (cp : CallPath) (s s' : σ) (g : CallerClass) (r : Address)
    (hg : guardOf m = some g) (hr : required k g = some r) (hc : callerOf k cp = r) (hb : body m s = some s')
    (hw : writesTarget cp = true) :
    call k body m cp s = (s', true) := by
  unfold call
  simp only [hg, (permits_iff hr).2 hc, hb, hw, ↓reduceIte]

/-- the execute contract's address is none of the addresses a guard accepts. -/
structure Distinct (k : Consts) : Prop where
  pm : k.executeC ≠ k.packetModule
  am : k.executeC ≠ k.aggregateModule
  pc : k.executeC ≠ k.packetC
  ec : k.executeC ≠ k.endpointC

/-- an address that is none of the four addresses a guard accepts (user accounts, user contracts, the
execute contract). -/
def Outsider (k : Consts) (a : Address) : Prop :=
  a ≠ k.packetModule ∧ a ≠ k.aggregateModule ∧ a ≠ k.packetC ∧ a ≠ k.endpointC

/-- the paths open to users: a transaction from an account, a call from a contract (any origin, any
intermediate hops), call data handed to `execute`, call data inside a relayed packet. -/
def UserPath (k : Consts) : CallPath → Prop
  | .eoa a => Outsider k a
  | .contract _ c => Outsider k c
  | .viaExecute _ => True
  | .inPacket => True
  | .module a => Outsider k a        -- Go code calling with an address that is not the required one
  | .delegate o _ => Outsider k o    -- DELEGATECALL keeps the helper's own caller as msg.sender
  | .callcode _ c => Outsider k c
  | .static _ c => Outsider k c
  | .ctor _ c => Outsider k c        -- the contract under construction

/-- on every user path the effective caller is an outsider: the user's own address, or the execute contract's. -/
theorem userPath_outsider {k : Consts} (hd : Distinct k) {cp : CallPath} (hcp : UserPath k cp) :
    Outsider k (callerOf k cp) := by
  have he : Outsider k k.executeC := ⟨hd.pm, hd.am, hd.pc, hd.ec⟩
  cases cp with
  | viaExecute o => exact he
  | inPacket => exact he
  | _ => exact hcp

/-- **No user path reaches a privileged method**: user account, user contract, nested call through the
execute contract, call data of a received packet — every privileged method of the three contracts reverts
and changes nothing. -/
theorem no_user_path {σ : Type} (k : Consts) (hd : Distinct k) (body : Method → σ → Option σ) (m : Method)
    (hp : privileged m = true) (cp : CallPath) (hcp : UserPath k cp) (s : σ) :
    call k body m cp s = (s, false) := by
  unfold privileged at hp
  cases hg : guardOf m with
  | none => rw [hg] at hp; cases hp
  | some g =>
    rw [hg] at hp
    -- the effective caller differs from each of the four addresses a guard can require
    obtain ⟨h1, h2, h3, h4⟩ := userPath_outsider hd hcp
    cases g with
    | anyone => cases hp
    | _ => exact privileged_only_modules k body m cp s _ _ hg rfl (by assumption)

/-- DELEGATECALL / CALLCODE / STATICCALL can never change the target contract's state, whoever makes them. -/
theorem foreign_context_never_changes_target {σ : Type} (k : Consts) (body : Method → σ → Option σ) (m : Method)
    (cp : CallPath) (s : σ) (h : writesTarget cp = false) : (call k body m cp s).1 = s :=
  (call_state k body m cp s).resolve_right fun hc => Bool.false_ne_true (h.symm.trans hc.2)

/-- **Only the packet contract's own logs drive `SendPacket`**: a `PacketSent`-shaped log emitted by any other
address leaves the keeper state (commitments, next send sequence) as it was. -/
theorem only_packet_contract_logs_drive_send {σ : Type} (k : Consts) (send : σ → σ) (a : Address) (s : σ)
    (h : a ≠ k.packetC) : hook k send a s = s :=
  if_neg (mt bytes_beq.1 h)

/-- **The hook filters each log of a receipt on its own**: in a receipt with any mixture of genuine logs of the
packet contract and look-alike logs of other contracts, in any order, the keeper does exactly what it would do
for the receipt with the foreign logs removed — a genuine log elsewhere in the same transaction lends a forged
one no authority. -/
theorem hook_filters_each_log {σ : Type} (k : Consts) (send : σ → σ) (logs : List Address) (s : σ) :
    hookRun k send logs s = hookRun k send (logs.filter (fun a => a == k.packetC)) s := by
  induction logs generalizing s with
  | nil => rfl
  | cons a rest ih =>
    simp only [hookRun, List.filter_cons, ih (hook k send a s)]
    by_cases hb : (a == k.packetC) = true
    · rw [if_pos hb, hookRun]
    · rw [if_neg hb, only_packet_contract_logs_drive_send k send a s (mt bytes_beq.2 hb)]

/-- counting form: the number of sends is the number of logs emitted by the packet contract itself. -/
theorem hook_counts_genuine_logs (k : Consts) (logs : List Address) (n : Nat) :
    hookRun k (fun m => m + 1) logs n = n + (logs.filter (fun a => a == k.packetC)).length := by
  induction logs generalizing n with
  | nil => rfl
  | cons a rest ih =>
    simp only [hookRun, List.filter_cons, ih]
    by_cases hb : (a == k.packetC) = true
    · rw [if_pos hb, List.length_cons, show hook k (fun m => m + 1) a n = n + 1 from if_pos hb]
      exact Nat.add_right_comm n 1 _
    · rw [if_neg hb, only_packet_contract_logs_drive_send k _ a n (mt bytes_beq.2 hb)]

/-- the table has one row per method (no method is listed twice with different classes). -/
theorem table_functional : (table.map (·.1)).Nodup := by decide +kernel

theorem find?_key {α β : Type} [BEq α] [LawfulBEq α] {l : List (α × β)} (hn : (l.map (·.1)).Nodup)
    {r : α × β} (hr : r ∈ l) : l.find? (fun x => x.1 == r.1) = some r := by
  induction l with
  | nil => cases hr
  | cons x xs ih =>
    rw [List.map_cons, List.nodup_cons] at hn
    rcases List.mem_cons.1 hr with rfl | hr
    · simp only [List.find?_cons, beq_self_eq_true]
    · have hne : (x.1 == r.1) = false := beq_false_of_ne fun h => hn.1 (h ▸ List.mem_map_of_mem hr)
      simp only [List.find?_cons, hne]
      exact ih hn.2 hr

-- Facts about a listed method are read off its row: `table_functional` is the only place where method names are
-- compared with one another.
theorem guardOf_row {m : Method} {g : CallerClass} (hr : (m, g) ∈ table) : guardOf m = some g := by
  unfold guardOf
  rw [find?_key table_functional hr]
  rfl

theorem privileged_row {m : Method} {g : CallerClass} (hr : (m, g) ∈ table) :
    privileged m = (g != .anyone) := by
  unfold privileged
  rw [guardOf_row hr]
  cases g <;> rfl

/-- the privileged rows of the table, spelled out (a change of the table must change this statement). -/
theorem privileged_rows :
    (table.filter (fun r => privileged r.1)).map (fun r => (r.1.contract, r.1.name, r.2)) =
    [ (.packet, "OnAcknowledgePacket", .packetModule), (.packet, "onRecvPacket", .packetModule),
      (.packet, "sendPacketFeeToRelayer", .packetModule), (.packet, "setAckStatus", .packetModule),
      (.packet, "setChainName", .packetModule), (.packet, "setSequence", .packetModule),
      (.packet, "sendPacket", .endpointContract),
      (.endpoint, "bindToken", .aggregateModule), (.endpoint, "enableTimeBasedSupplyLimit", .aggregateModule),
      (.endpoint, "disableTimeBasedSupplyLimit", .aggregateModule),
      (.endpoint, "onRecvPacket", .packetContract), (.endpoint, "onAcknowledgementPacket", .packetContract) ] := by
  rw [List.filter_congr (fun r hr => privileged_row hr)]
  rfl

/-! non-vacuity: the real addresses -/
def realConsts : Consts :=
  { packetModule := [0x74, 0x26, 0xaf, 0xc4, 0x89, 0xd0, 0xee, 0xf9, 0x9a, 0x0b, 0x43, 0x8d, 0xef, 0x22, 0x6a, 0xd1, 0x39, 0xf7, 0x52, 0x35],
    aggregateModule := [0xee, 0x3c, 0x65, 0xb5, 0xc7, 0xf4, 0xdd, 0x0e, 0xbe, 0xd8, 0xbf, 0x04, 0x67, 0x25, 0xe2, 0x73, 0xe3, 0xee, 0xed, 0x3c],
    packetC := [0,0,0,0,0,0,0,0,0,0,0,0,0,0,0,0,0x20,0,0,1],
    endpointC := [0,0,0,0,0,0,0,0,0,0,0,0,0,0,0,0,0x20,0,0,2],
    executeC := [0,0,0,0,0,0,0,0,0,0,0,0,0,0,0,0,0x20,0,0,3] }

theorem setSequence_row : (⟨.packet, "setSequence"⟩, CallerClass.packetModule) ∈ table :=
  List.mem_of_getElem? (i := 5) rfl

example : Distinct realConsts := ⟨by decide +kernel, by decide +kernel, by decide +kernel, by decide +kernel⟩
example : UserPath realConsts (.eoa [1, 2, 3]) := by unfold UserPath Outsider; decide +kernel
example : privileged ⟨.packet, "setSequence"⟩ = true := privileged_row setSequence_row
example : (call realConsts (fun _ (n : Nat) => some (n + 1)) ⟨.packet, "setSequence"⟩ (.module realConsts.packetModule) 7) = (8, true) :=
  required_caller_runs_body _ _ _ _ _ _ _ _ (guardOf_row setSequence_row) rfl rfl rfl rfl
example : (call realConsts (fun _ (n : Nat) => some (n + 1)) ⟨.packet, "setSequence"⟩ .inPacket 7) = (7, false) :=
  privileged_only_modules _ _ _ _ _ _ _ (guardOf_row setSequence_row) rfl (by decide)

end TM.Guard
