import TeleportModel.Proofs.C13
/-
C13 — x/rvesting genesis. First part (parameters as opaque store entries): an export never carries `From`, and InitGenesis with
`From` funding moves exactly `InitReward` from the funding account to the vesting pool or panics. Second part (`RvParams`, the
structured parameter set with the module's validator): export / validate / `SetParamSet` on every accepted list, and three
accepted lists on which a canonicalising export would not round-trip.
-/
namespace TM.Genesis
open TM TM.GKv

/-- InitGenesis of an exported rvesting genesis restores the parameters and touches no balance -/
theorem initRvesting_export (pool : Bytes) (bal : Balances) {p : Store} (hp : Sorted p) :
    initRvesting pool bal (exportRvesting p) = .ok { p := p, bal := bal } := by
  simp [initRvesting, exportRvesting, roundtrip_params hp]

theorem amountOf_cons (c : Bytes × Nat) (r : List (Bytes × Nat)) (d : Bytes) :
    amountOf (c :: r) d = (if c.1 = d then c.2 else 0) + amountOf r d := by
  have sum : ∀ l : List (Bytes × Nat), l.foldl (fun a c => a + c.2) 0 = (l.map (·.2)).sum :=
    fun l => by rw [List.sum_eq_foldl_nat, List.foldl_map]
  unfold amountOf
  rw [sum, sum, List.filter_cons]
  by_cases e : c.1 = d
  · rw [if_pos (decide_eq_true e), if_pos e, List.map_cons, List.sum_cons]
  · rw [if_neg (fun h => e (of_decide_eq_true h)), if_neg e, Nat.zero_add]

theorem amountOf_absent (r : List (Bytes × Nat)) (d : Bytes) (h : d ∉ r.map (·.1)) : amountOf r d = 0 := by
  unfold amountOf
  rw [List.filter_eq_nil_iff.mpr (fun c hc e => h (List.mem_map.mpr ⟨c, hc, of_decide_eq_true e⟩))]
  rfl

/-- with distinct denominations (`Coins.Validate`) "every coin is covered" means the whole amount per denomination is covered -/
theorem amountOf_le_of_canPay {bal : Balances} {sender : Bytes} {coins : List (Bytes × Nat)}
    (hnd : (coins.map (·.1)).Nodup) (hpay : canPay bal sender coins = true) (d : Bytes) :
    amountOf coins d ≤ bal sender d := by
  induction coins with
  | nil => exact Nat.zero_le _
  | cons c r ih =>
    obtain ⟨hc, hr⟩ : c.2 ≤ bal sender c.1 ∧ canPay bal sender r = true := by
      simpa only [canPay, List.all_cons, Bool.and_eq_true, decide_eq_true_eq] using hpay
    obtain ⟨hn, hnd'⟩ := List.nodup_cons.mp hnd
    rw [amountOf_cons]
    by_cases e : c.1 = d
    · rw [if_pos e, amountOf_absent r d (e ▸ hn), Nat.add_zero]
      exact e ▸ hc
    · rw [if_neg e, Nat.zero_add]
      exact ih hnd' hr

/-- **InitGenesis with `From` funding**: state after init = the genesis parameters + a pool funded with exactly `InitReward`,
taken from `From`; nobody else's balance moves, nothing is created or destroyed -/
theorem initRvesting_funded (pool : Bytes) (bal : Balances) (g : RvGenesis)
    (hs : g.sender ≠ []) (hv : g.fromValid = true) (hne : g.sender ≠ pool)
    (hnd : (g.initReward.map (·.1)).Nodup) (hpay : canPay bal g.sender g.initReward = true) :
    ∃ st, initRvesting pool bal g = .ok st ∧ st.p = initParams g.params ∧
      (∀ d, st.bal pool d = bal pool d + amountOf g.initReward d) ∧
      (∀ d, st.bal g.sender d + amountOf g.initReward d = bal g.sender d) ∧
      (∀ a d, a ≠ pool → a ≠ g.sender → st.bal a d = bal a d) ∧
      (∀ d, st.bal pool d + st.bal g.sender d = bal pool d + bal g.sender d) := by
  have covered := amountOf_le_of_canPay hnd hpay
  refine ⟨{ p := initParams g.params, bal := sendCoins bal g.sender pool g.initReward }, ?_, rfl, fun d => ?_, fun d => ?_,
    fun a d h1 h2 => ?_, fun d => ?_⟩
  · simp only [initRvesting, hs, hv, hpay, ↓reduceIte, Bool.not_true, Bool.false_eq_true]
  · simp only [sendCoins, hne, hne.symm, ↓reduceIte]
  · simp only [sendCoins, hne, ↓reduceIte]
    exact Nat.sub_add_cancel (covered d)
  · simp only [sendCoins, hne, h1, h2, ↓reduceIte]
  · simp only [sendCoins, hne, hne.symm, ↓reduceIte]
    rw [Nat.add_assoc, Nat.add_sub_cancel' (covered d)]

/-- InitGenesis with `From` panics exactly when the address does not parse or the account cannot pay (a validated genesis can
still panic on the second condition: `ValidateGenesis` cannot see balances) -/
theorem initRvesting_panics_iff (pool : Bytes) (bal : Balances) (g : RvGenesis) (hs : g.sender ≠ []) :
    (initRvesting pool bal g).isPanic = true ↔ (g.fromValid = false ∨ canPay bal g.sender g.initReward = false) := by
  unfold initRvesting
  simp only [hs, if_false]
  cases g.fromValid <;> cases canPay bal g.sender g.initReward <;> simp [Outcome.isPanic]

/-! ## parameters: export / import is the identity on the WHOLE validated domain -/

/-- **rvesting parameters round-trip for every list the module's validator accepts** — unsorted lists, zero amounts (one or
all), one or many denominations, vesting enabled or not. `exportRvParams` is the identity in the model (`ExportGenesis` =
`NewGenesisState(GetParams())`), so this says: what the validator accepts, `SetParamSet` stores unchanged; that the real export
changes nothing is what the differential run checks. -/
theorem rv_params_roundtrip (p : RvParams) (h : validateRvParams p = true) :
    validateRvParams (exportRvParams p) = true ∧ setRvParams (exportRvParams p) = .ok p := by
  simp [exportRvParams, setRvParams, h]

/-- what a parameter-change proposal accepts, the genesis path accepts and reproduces -/
theorem rv_update_then_roundtrip (cur p : RvParams) (st : RvParams) (h : updateRvParams cur p = .ok st) :
    setRvParams (exportRvParams st) = .ok st := by
  unfold updateRvParams at h
  split at h
  · next hv =>
    injection h with h; subst h
    exact (rv_params_roundtrip _ hv).2
  · simp at h

/-- the same on the level of the parameter subspace entries -/
theorem rv_params_kv_roundtrip (p : RvParams) :
    initParams (exportParams (setAll [] (rvParamsKV p))) = setAll [] (rvParamsKV p) :=
  roundtrip_params (sorted_setAll sorted_nil _)

/- validated but not canonical: `5zzz,7aaa` (unsorted), `100atele,0paused` (a zero amount), `0atele` (all zero) -/
def rvUnsorted : RvParams := ⟨true, [⟨"zzz", some 5⟩, ⟨"aaa", some 7⟩]⟩
def rvOneZero : RvParams := ⟨false, [⟨"atele", some 100⟩, ⟨"paused", some 0⟩]⟩
def rvAllZero : RvParams := ⟨true, [⟨"atele", some 0⟩]⟩

/-- why an export that canonicalises the reward list (`sdk.NewCoins`: sort, drop zeros; trial change `seeded/C13-6`) violates the
property: all three lists are
accepted by the validator, the canonical form differs from what is stored, and for the all-zero list the canonical export is
empty and FAILS the module's own genesis validation -/
theorem canonical_export_breaks_roundtrip :
    (validateRvParams rvUnsorted = true ∧ canonCoins rvUnsorted.reward ≠ rvUnsorted.reward) ∧
    (validateRvParams rvOneZero = true ∧ canonCoins rvOneZero.reward ≠ rvOneZero.reward) ∧
    (validateRvParams rvAllZero = true ∧ canonCoins rvAllZero.reward = [] ∧
      validateRvParams { rvAllZero with reward := canonCoins rvAllZero.reward } = false) := by
  decide +kernel

end TM.Genesis
