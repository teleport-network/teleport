import TeleportModel.Model.Host
import TeleportModel.Generated.HostKeys
import TeleportModel.Generated.KeeperKeys
import TeleportModel.Proofs.C19Host
import TeleportModel.Proofs.C19Cons
/-
C19 — point read-back: what `Set*` stored for (src, dst, sequence) is what `Get*` / `Has*` find for the SAME
(src, dst, sequence), and a write for one triple of valid names never changes what is read for another.
This needs getter and setter of a family to address the store through the same key template with their
parameters passed through unchanged — an obligation over the regenerated accessor table, discharged by evaluation.
-/
namespace TM.C19
open TM TM.Host TM.Generated

theorem storeGet_cons {α} (k k' : Bytes) (v : α) (r : List (Bytes × α)) :
    storeGet k ((k', v) :: r) = if k = k' then some v else storeGet k r := rfl

theorem storeGet_storeSet_same {α} (k : Bytes) (v : α) (st : List (Bytes × α)) :
    storeGet k (storeSet k v st) = some v := by
  fun_induction storeSet k v st with
  | case1 => exact if_pos rfl
  | case2 v' r => exact if_pos rfl
  | case3 k' v' r h1 h2 => exact if_pos rfl
  | case4 k' v' r h1 h2 ih => rw [storeGet_cons, if_neg h1, ih]

theorem storeGet_storeSet_other {α} (k k' : Bytes) (v : α) (st : List (Bytes × α)) (h : k' ≠ k) :
    storeGet k' (storeSet k v st) = storeGet k' st := by
  fun_induction storeSet k v st with
  | case1 => exact if_neg h
  | case2 v₀ r => rw [storeGet_cons, storeGet_cons, if_neg h, if_neg h]
  | case3 k₀ v₀ r h1 h2 => rw [storeGet_cons, if_neg h]
  | case4 k₀ v₀ r h1 h2 ih => rw [storeGet_cons, storeGet_cons, ih]

theorem point_readback_same {α} (T : Template) (args : List Arg) (k : Bytes) (v : α) (st : List (Bytes × α))
    (hk : render T args = some k) :
    (render T args).bind (fun k' => storeGet k' (storeSet k v st)) = some v := by
  rw [hk]; exact storeGet_storeSet_same k v st

/-- a write for (a, b, n) does not change what is read for a different triple (a', b', n') of '/'-free names —
    in particular for names that differ only in the case of a letter -/
theorem point_readback_other {α} (T : Template) (p0 m0 a b a' b' k k' : Bytes) (n n' : UInt64) (v : α)
    (st : List (Bytes × α)) (hT : PacketShape T p0 m0)
    (ha : slash ∉ a) (hb : slash ∉ b) (ha' : slash ∉ a') (hb' : slash ∉ b')
    (hk : render T [.s a, .s b, .n n] = some k) (hk' : render T [.s a', .s b', .n n'] = some k')
    (hne : (a', b', n') ≠ (a, b, n)) :
    storeGet k' (storeSet k v st) = storeGet k' st := by
  apply storeGet_storeSet_other
  intro heq
  subst heq
  exact hne (packet_key_injective T p0 m0 a' b' a b k' n' n hT ha' hb' ha hb hk' hk)

/-- every accessor passes its own (src, dst[, sequence]) to the key function unchanged -/
theorem accessors_verbatim : ∀ a ∈ KeeperKeys.accessors, a.verbatim = true := by decide +kernel

theorem delegates_verbatim : ∀ d ∈ KeeperKeys.delegates, d.verbatim = true := by decide +kernel

/-- every forwarding accessor forwards to an accessor of its own family -/
theorem delegates_same_family : ∀ d ∈ KeeperKeys.delegates,
    KeeperKeys.accessors.any (fun a => a.fn == d.target && a.family == d.family) = true := by decide +kernel

/-- all accessors of a family (Get / Set / Has / delete) use the same key template -/
theorem accessors_same_key : ∀ a ∈ KeeperKeys.accessors, ∀ b ∈ KeeperKeys.accessors,
    a.family = b.family → a.keyT = b.keyT := by decide +kernel

/-- whatever is read was written through the same family: every family has a setter -/
theorem accessors_have_setter : ∀ a ∈ KeeperKeys.accessors,
    KeeperKeys.accessors.any (fun b => b.family == a.family && b.op == .set) = true := by decide +kernel

/-- the key templates the accessors use are the ones whose shape (and hence injectivity) is proved -/
theorem accessors_known_templates : ∀ a ∈ KeeperKeys.accessors,
    a.keyT ∈ [HostKeys.nextSequenceSendKey, HostKeys.packetReceiptKey, HostKeys.packetCommitmentKey,
              HostKeys.packetRelayerKey, HostKeys.packetAcknowledgementKey] := by decide +kernel

/-- the statement on the generated table: a getter `g` and the setter `s` of the same family, called with the same
    arguments, address the same key — what `s` stored is what `g` reads -/
theorem generated_point_readback {α} (g s : Accessor) (hg : g ∈ KeeperKeys.accessors) (hs : s ∈ KeeperKeys.accessors)
    (hf : g.family = s.family) (args : List Arg) (k : Bytes) (v : α) (st : List (Bytes × α))
    (hk : render s.keyT args = some k) :
    (render g.keyT args).bind (fun k' => storeGet k' (storeSet k v st)) = some v := by
  rw [accessors_same_key g hg s hs hf]
  exact point_readback_same s.keyT args k v st hk

/-! ### the defect as a witness: a getter that lower-cases the names misses the key of `Abc` -/
theorem lowercased_getter_misses :
    render HostKeys.packetReceiptKey [.s [65, 98, 99], .s [101, 116, 104], .n 7] ≠
    render HostKeys.packetReceiptKey [.s [97, 98, 99], .s [101, 116, 104], .n 7] := by decide +kernel

end TM.C19
