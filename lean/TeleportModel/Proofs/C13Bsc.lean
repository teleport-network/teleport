import TeleportModel.Proofs.C13Reach
/-
C13 — the BSC light client's real update path: every state reachable by create + accepted headers satisfies `ModuleKeys`
(so the genesis round trip holds) and carries no empty value, hence every client-metadata entry of its export has a non-empty key
and a non-empty value — the metadata part of `GenesisState.Validate`. The pending-validators record is written only at an epoch
header and only non-empty; it is never reset to an empty value (`empty_pending_breaks_validation`: such a reset leaves `NonEmptyVals`).
-/
namespace TM.Genesis
open TM TM.GKv

theorem foldl_delSigner {s : Store} (h : ModuleKeys s) {chain : Bytes} (hc : slash ∉ chain) (dels : List Height) :
    ModuleKeys (dels.foldl (fun s d => bscDelSigner s chain d) s) ∧
      tyOfChain (dels.foldl (fun s d => bscDelSigner s chain d) s) chain = tyOfChain s chain := by
  refine List.foldlRecOn (motive := fun s' => ModuleKeys s' ∧ tyOfChain s' chain = tyOfChain s chain) dels _ ⟨h, rfl⟩ ?_
  rintro s' ⟨h', t'⟩ d _
  refine ⟨moduleKeys_bscDelSigner h' d hc, Eq.trans ?_ t'⟩
  exact tyOfChain_del_other (sorted_of_moduleKeys h')
    (fun e => (metaPath_special (metaPath_signer d)).1 (clientKey_inj hc hc e).2)

theorem bscUpdateGuard_spec {s : Store} {chain cb sb signer : Bytes} {pending : Option Bytes}
    (h : bscUpdateGuard s chain cb sb signer pending = true) :
    slash ∉ chain ∧ tyOfChain s chain = some .bsc ∧ clientTy cb = some .bsc ∧ consTy sb = some .bsc ∧ signer ≠ [] ∧
      (∀ p, pending = some p → p ≠ []) := by
  unfold bscUpdateGuard at h
  simp only [Bool.and_eq_true, beq_iff_eq, Bool.not_eq_true', List.isEmpty_eq_false_iff] at h
  obtain ⟨⟨⟨⟨⟨h1, h2⟩, h3⟩, h4⟩, h5⟩, h6⟩ := h
  refine ⟨noSlash_iff.mp h1, h2, h3, h4, h5, ?_⟩
  intro p hp
  subst hp
  simpa using h6

theorem moduleKeys_bscUpdate {s : Store} (h : ModuleKeys s) {chain cb sb signer : Bytes} {pending : Option Bytes}
    (hgt : Height) (dels : List Height) (hg : bscUpdateGuard s chain cb sb signer pending = true) :
    ModuleKeys (bscUpdate s chain hgt cb sb signer pending dels) := by
  obtain ⟨hc, hty, hcb, hsb, _, _⟩ := bscUpdateGuard_spec hg
  obtain ⟨h1, t1⟩ := moduleKeys_setMeta h hc hty (metaPath_signer hgt) signer
  have fin : ∀ s2 : Store, ModuleKeys s2 → tyOfChain s2 chain = some .bsc →
      ModuleKeys (setConsensusState (setClientState (dels.foldl (fun s d => bscDelSigner s chain d) s2) chain cb) chain hgt sb) := by
    intro s2 m2 t2
    obtain ⟨m3, t3⟩ := foldl_delSigner m2 hc dels
    exact moduleKeys_setConsensusState
      (moduleKeys_setClientState_ty m3 hc (by rw [hcb]; rfl) (by rw [t3, t2, hcb])) hgt hc (by rw [hsb]; rfl)
  cases pending with
  | none => exact fin _ h1 t1
  | some p =>
    obtain ⟨h2, t2⟩ := moduleKeys_setMeta h1 hc t1 metaPath_pending p
    exact fin _ h2 t2

theorem nonEmptyVals_iff (s : Store) : NonEmptyVals s ↔ ∀ kv ∈ s, kv.1 ≠ kChainName → kv.2 ≠ [] := by
  unfold NonEmptyVals nonEmptyValsB
  simp only [List.all_eq_true, Bool.or_eq_true, beq_iff_eq, Bool.not_eq_true', List.isEmpty_eq_false_iff]
  exact forall₂_congr fun _ _ => Decidable.or_iff_not_imp_left

theorem nonEmptyVals_set {s : Store} (h : NonEmptyVals s) (k : Bytes) {v : Bytes} (hv : v ≠ []) : NonEmptyVals (set s k v) := by
  rw [nonEmptyVals_iff] at h ⊢
  intro kv hkv hne
  rcases mem_set_sub hkv with e | hm
  · subst e; exact hv
  · exact h kv hm hne

theorem nonEmptyVals_del {s : Store} (h : NonEmptyVals s) (k : Bytes) : NonEmptyVals (del s k) := by
  rw [nonEmptyVals_iff] at h ⊢
  exact fun kv hkv hne => h kv (mem_del_sub hkv) hne

theorem clientTy_ne_nil {b : Bytes} {ty : Ty} (h : clientTy b = some ty) : b ≠ [] := by
  intro e; subst e; simp [clientTy, anyUrl] at h

theorem consTy_ne_nil {b : Bytes} {ty : Ty} (h : consTy b = some ty) : b ≠ [] := by
  intro e; subst e; simp [consTy, anyUrl] at h

theorem be64_ne_nil (n : UInt64) : be64 n ≠ [] := by
  intro e
  have := be64_length n
  rw [e] at this; simp at this

/-- an accepted BSC header writes no empty value: the signer is an address, the pending set (epoch headers only) is non-empty,
client and consensus states are encodings of typed messages -/
theorem nonEmptyVals_bscUpdate {s : Store} (h : NonEmptyVals s) {chain cb sb signer : Bytes} {pending : Option Bytes}
    (hgt : Height) (dels : List Height) (hg : bscUpdateGuard s chain cb sb signer pending = true) :
    NonEmptyVals (bscUpdate s chain hgt cb sb signer pending dels) := by
  obtain ⟨_, _, hcb, hsb, hsig, hpend⟩ := bscUpdateGuard_spec hg
  unfold bscUpdate
  have h1 : NonEmptyVals (bscSetSigner s chain hgt signer) := nonEmptyVals_set h _ hsig
  have fin : ∀ s2 : Store, NonEmptyVals s2 →
      NonEmptyVals (setConsensusState (setClientState (dels.foldl (fun s d => bscDelSigner s chain d) s2) chain cb) chain hgt sb) := by
    intro s2 h2
    have h3 : NonEmptyVals (dels.foldl (fun s d => bscDelSigner s chain d) s2) :=
      List.foldlRecOn dels _ h2 (fun _ h _ _ => nonEmptyVals_del h _)
    exact nonEmptyVals_set (nonEmptyVals_set h3 _ (clientTy_ne_nil hcb)) _ (consTy_ne_nil hsb)
  cases pending with
  | none => exact fin _ h1
  | some p => exact fin _ (nonEmptyVals_set h1 _ (hpend p rfl))

theorem nonEmptyVals_fresh (n : Bytes) : NonEmptyVals (freshStore n) := by
  rw [nonEmptyVals_iff]
  intro kv hkv hne
  simp [freshStore, setChainName, GKv.set] at hkv
  subst hkv
  exact absurd rfl hne

theorem applyBsc_invariant {s : Store} (h : ModuleKeys s ∧ NonEmptyVals s) (op : BscOp) :
    ModuleKeys (applyBsc s op) ∧ NonEmptyVals (applyBsc s op) := by
  cases op with
  | create chain cb sb hgt signer pending =>
    refine ite_inv (P := fun s => ModuleKeys s ∧ NonEmptyVals s) h fun hg => ?_
    simp only [Bool.and_eq_true, beq_iff_eq, Bool.not_eq_true', List.isEmpty_eq_false_iff, Option.isNone_iff_eq_none] at hg
    obtain ⟨⟨⟨⟨g1, g2⟩, g3⟩, g4⟩, g5⟩ := hg
    refine ⟨moduleKeys_createClient h.1 hgt g1 g5, ?_⟩
    obtain ⟨_, ty, hty, _, hcons⟩ := createGuard_spec g1
    cases Option.some.inj (hty.symm.trans g2)
    obtain ⟨t, ht⟩ := Option.isSome_iff_exists.mp (hcons.resolve_left Ty.noConfusion)
    exact nonEmptyVals_set (nonEmptyVals_set (nonEmptyVals_set (nonEmptyVals_set h.2 _ (clientTy_ne_nil g2)) _ g3) _ g4) _
      (consTy_ne_nil ht)
  | update chain hgt cb sb signer pending dels =>
    exact ite_inv (P := fun s => ModuleKeys s ∧ NonEmptyVals s) h fun hg =>
      ⟨moduleKeys_bscUpdate h.1 hgt dels hg, nonEmptyVals_bscUpdate h.2 hgt dels hg⟩

/-- every state reachable by installing BSC clients and feeding them accepted headers satisfies ModuleKeys and has no empty value -/
theorem bsc_reachable (n : Bytes) (ops : List BscOp) :
    ModuleKeys (ops.foldl applyBsc (freshStore n)) ∧ NonEmptyVals (ops.foldl applyBsc (freshStore n)) :=
  List.foldlRecOn (motive := fun s => ModuleKeys s ∧ NonEmptyVals s) ops applyBsc
    ⟨moduleKeys_fresh n, nonEmptyVals_fresh n⟩ (fun _ h op _ => applyBsc_invariant h op)

theorem bsc_reachable_roundtrip (n : Bytes) (ops : List BscOp) :
    initXibc (exportXibc (ops.foldl applyBsc (freshStore n))) = ops.foldl applyBsc (freshStore n) :=
  roundtrip (bsc_reachable n ops).1

theorem metaPath_ne_nil {ty : Ty} {p : Bytes} (h : metaPath ty p = true) : p ≠ [] := by
  rintro rfl
  cases ty <;> exact absurd h (by decide)

/-- in a store without empty values every exported client-metadata entry has a non-empty key and a non-empty value
(`GenesisMetadata.Validate` accepts every entry of the export) -/
theorem export_metadata_valid {s : Store} (hv : NonEmptyVals s) :
    ∀ cm ∈ (exportXibc s).client.metadata, ∀ kv ∈ cm.2, kv.1 ≠ [] ∧ kv.2 ≠ [] := by
  rw [nonEmptyVals_iff] at hv
  rintro cm hcm ⟨k, v⟩ hkv
  obtain ⟨_, ty, _, _, hgms, _⟩ := mem_exportMetadata.mp hcm
  rw [hgms] at hkv
  obtain ⟨hm, hmp⟩ := mem_exportMeta.mp hkv
  exact ⟨metaPath_ne_nil hmp, hv (clientKey cm.1 k, v) ((mem_clientStore s cm.1 k v).mp hm) (clientKey_ne_chainName _ _)⟩

/-- **`export_validates`, metadata part, for every reachable state of the BSC update path** (by induction over create + accepted
headers): no exported metadata entry — recent signers, pending validators — has an empty key or value.
`export_validates_bsc_partial`: the remaining conjuncts of `GenesisState.Validate` (per-type `Validate()` / `ValidateBasic()` of the
blobs, identifier rule, height ≠ 0-0, client / consensus type agreement) are given by `export_validates` under `WellFormed`; that
`WellFormed` is itself an invariant of the BSC operations is not proved here (it needs the external `Env` facts about every
blob on the op line), it is checked by the differential run. -/
theorem export_validates_bsc_partial (n : Bytes) (ops : List BscOp) :
    ∀ cm ∈ (exportXibc (ops.foldl applyBsc (freshStore n))).client.metadata, ∀ kv ∈ cm.2, kv.1 ≠ [] ∧ kv.2 ≠ [] :=
  export_metadata_valid (bsc_reachable n ops).2

/-- `SetPendingValidators(store, cdc, nil)` written as a model operation stores an empty value, so the state it reaches is outside
`NonEmptyVals`, the invariant from which `export_metadata_valid` derives the metadata part of `Validate`. Only that much is
proved; that the export of such a state fails `Validate` is what the differential run observes (docs/C13.md, M12). -/
theorem empty_pending_breaks_validation (s : Store) (chain : Bytes) :
    ¬ NonEmptyVals (bscSetPending s chain []) := by
  intro h
  rw [nonEmptyVals_iff] at h
  have hm : (clientKey chain kPending, ([] : Bytes)) ∈ bscSetPending s chain [] := mem_set_self ..
  exact h _ hm (clientKey_ne_chainName _ _) rfl

end TM.Genesis
