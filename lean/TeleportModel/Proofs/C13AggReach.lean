import TeleportModel.Proofs.C13Agg
/-
C13 — the aggregate registry invariant `AggKeys` (every denomination / contract index entry points to the pair that lists it, every
pair has all its index entries: each denomination in exactly one pair) is carried through the registry operations behind the
governance proposals and the self-destruct clean-up; hence the export of every reachable registry validates and round-trips.
Last section: the module-level import (`moduleInit`: JSON decode, then the keeper-level import) for aggregate and xibc, and a toy
defaulting import that does not round-trip.
-/
namespace TM.Genesis
open TM TM.GKv

theorem get_del_some {s : Store} (hS : Sorted s) (k k' v : Bytes) :
    get (del s k) k' = some v ↔ (get s k' = some v ∧ k' ≠ k) := by
  rw [get_del hS]
  by_cases e : k = k'
  · simp only [e, if_true, reduceCtorEq, ne_eq, not_true_eq_false, and_false]
  · simp only [e, if_false, ne_eq, Ne.symm e, not_false_eq_true, and_true]

theorem foldl_delDenoms {s : Store} (hS : Sorted s) (ds : List Bytes) :
    Sorted (ds.foldl (fun s d => del s (aggDenomKey d)) s) ∧
    ∀ k v, get (ds.foldl (fun s d => del s (aggDenomKey d)) s) k = some v ↔ (get s k = some v ∧ ∀ d ∈ ds, k ≠ aggDenomKey d) := by
  induction ds generalizing s with
  | nil => exact ⟨hS, fun k v => ⟨fun h => ⟨h, fun _ hd => absurd hd List.not_mem_nil⟩, fun h => h.1⟩⟩
  | cons d r ih =>
    obtain ⟨h1, h2⟩ := ih (sorted_del hS (aggDenomKey d))
    refine ⟨h1, fun k v => ?_⟩
    rw [List.foldl_cons, h2, get_del_some hS, List.forall_mem_cons, and_assoc]

theorem sorted_aggDelPair {env : Env} {s : Store} (hS : Sorted s) (b : Bytes) : Sorted (aggDelPair env s b) :=
  (foldl_delDenoms (sorted_del (sorted_del hS _) _) _).1

theorem get_aggDelPair {env : Env} {s : Store} (hS : Sorted s) (b k v : Bytes) :
    get (aggDelPair env s b) k = some v ↔
      (get s k = some v ∧ k ≠ aggPairKey (env.pairId b) ∧ k ≠ aggErc20Key (env.pairErc20 b) ∧ ∀ d ∈ env.pairDenoms b, k ≠ aggDenomKey d) := by
  have h1 := sorted_del hS (aggPairKey (env.pairId b))
  rw [aggDelPair, (foldl_delDenoms (sorted_del h1 _) _).2, get_del_some h1, get_del_some hS, and_assoc, and_assoc]

/-- the key determines the written value, so repeated writes (a denomination listed twice) cannot disagree -/
theorem aggPairWrites_snd {env : Env} {b : Bytes} {kv : Bytes × Bytes} (h : kv ∈ aggPairWrites env b) :
    kv.2 = if kv.1 = aggPairKey (env.pairId b) then b else env.pairId b := by
  rcases mem_aggPairWrites.mp h with rfl | ⟨d, -, rfl⟩ | rfl
  · exact (if_pos rfl).symm
  · exact (if_neg (aggDenomKey_ne_pairKey _ _)).symm
  · exact (if_neg (aggErc20Key_ne_pairKey _ _)).symm

theorem get_aggSetPair {env : Env} {s : Store} (hS : Sorted s) {b : Bytes}
    (fresh : ∀ kv ∈ aggPairWrites env b, get s kv.1 = none) (k v : Bytes) :
    get (aggSetPair env s b) k = some v ↔ ((k, v) ∈ aggPairWrites env b ∨ get s k = some v) := by
  refine ⟨get_setAll_some hS _, fun h => ?_⟩
  rcases h with hw | hold
  · refine get_setAll_mem hS _ hw (fun kv hkv e => ?_)
    rw [aggPairWrites_snd hkv, e]
    exact (aggPairWrites_snd hw).symm
  · refine get_setAll_keep hS hold _ (fun kv hkv e => ?_)
    rw [← e, fresh kv hkv] at hold
    cases hold

theorem aggKeys_iff_get {env : Env} {s : Store} :
    AggKeys env s ↔ (Sorted s ∧ ∀ k v, get s k = some v → aggKeyOk env s k v = true) := by
  rw [aggKeys_iff]
  exact and_congr_right (fun hS => ⟨fun h k v hg => h (k, v) ((mem_iff_get hS k v).mpr hg),
    fun h kv hm => h kv.1 kv.2 ((mem_iff_get hS _ _).mp hm)⟩)

/-- `aggKeyOk` only asks for entries to be present: it survives every extension of the store -/
theorem aggKeyOk_mono {env : Env} {s s' : Store} (hsub : ∀ k v, get s k = some v → get s' k = some v) {k v : Bytes}
    (h : aggKeyOk env s k v = true) : aggKeyOk env s' k v = true := by
  rcases aggKey_shape h with ⟨id, rfl⟩ | ⟨e, rfl⟩ | ⟨d, rfl⟩
  · obtain ⟨a1, a2, a3⟩ := aggKeyOk_pair.mp h
    exact aggKeyOk_pair.mpr ⟨a1, hsub _ _ a2, fun d hd => hsub _ _ (a3 d hd)⟩
  · obtain ⟨b', g1, g2⟩ := aggKeyOk_erc.mp h
    exact aggKeyOk_erc.mpr ⟨b', hsub _ _ g1, g2⟩
  · obtain ⟨b', g1, g2⟩ := aggKeyOk_den.mp h
    exact aggKeyOk_den.mpr ⟨b', hsub _ _ g1, g2⟩

theorem aggSetGuard_spec {env : Env} {s : Store} {b : Bytes} (h : aggSetGuard env s b = true) :
    (∀ kv ∈ aggPairWrites env b, get s kv.1 = none) ∧ env.pairDenoms b ≠ [] ∧ env.validPair b = true := by
  unfold aggSetGuard at h
  simp only [Bool.and_eq_true, Option.isNone_iff_eq_none, List.all_eq_true, Bool.not_eq_true',
    List.isEmpty_eq_false_iff] at h
  obtain ⟨⟨⟨⟨⟨f1, f2⟩, f3⟩, -⟩, hne⟩, hv⟩ := h
  refine ⟨fun kv hw => ?_, hne, hv⟩
  rcases mem_aggPairWrites.mp hw with rfl | ⟨d, hd, rfl⟩ | rfl
  · exact f1
  · exact f3 d hd
  · exact f2

/-- registering a pair whose id, contract and denominations are unused keeps `AggKeys` -/
theorem aggKeys_set {env : Env} {s : Store} (h : AggKeys env s) {b : Bytes} (hg : aggSetGuard env s b = true) :
    AggKeys env (aggSetPair env s b) := by
  obtain ⟨hS, hK⟩ := aggKeys_iff_get.mp h
  have hget := get_aggSetPair hS (aggSetGuard_spec hg).1
  have getW : ∀ {k v}, (k, v) ∈ aggPairWrites env b → get (aggSetPair env s b) k = some v :=
    fun hw => (hget _ _).mpr (Or.inl hw)
  refine aggKeys_iff_get.mpr ⟨sorted_setAll hS _, fun k v hkv => ?_⟩
  rcases (hget k v).mp hkv with hw | hold
  · -- a new entry: the pair and its index entries are written together
    rcases mem_aggPairWrites.mp hw with e | ⟨d, hd, e⟩ | e <;> cases e
    · exact aggKeyOk_pair.mpr ⟨rfl, getW (mem_aggPairWrites.mpr (Or.inr (Or.inr rfl))),
        fun d hd => getW (mem_aggPairWrites.mpr (Or.inr (Or.inl ⟨d, hd, rfl⟩)))⟩
    · exact aggKeyOk_den.mpr ⟨b, getW (mem_aggPairWrites.mpr (Or.inl rfl)), hd, rfl⟩
    · exact aggKeyOk_erc.mpr ⟨b, getW (mem_aggPairWrites.mpr (Or.inl rfl)), rfl, rfl⟩
  · -- an old entry: the store has only grown
    exact aggKeyOk_mono (fun k' v' hg' => (hget k' v').mpr (Or.inr hg')) (hK k v hold)

/-- `DeleteTokenPair` of a stored pair keeps `AggKeys`: no other pair shares its contract or one of its denominations -/
theorem aggKeys_del {env : Env} {s : Store} (h : AggKeys env s) {b : Bytes} (hg : aggDelGuard env s b = true) :
    AggKeys env (aggDelPair env s b) := by
  obtain ⟨hS, hK⟩ := aggKeys_iff_get.mp h
  have hb : get s (aggPairKey (env.pairId b)) = some b := beq_iff_eq.mp hg
  obtain ⟨-, p2, p3⟩ := aggKeyOk_pair.mp (hK _ _ hb)
  have hget := get_aggDelPair (env := env) hS b
  -- an index entry that does not point to the deleted id stays: the deleted index entries all point to it
  have keptIdx : ∀ k v, get s k = some v → k ≠ aggPairKey (env.pairId b) → v ≠ env.pairId b →
      get (aggDelPair env s b) k = some v := by
    intro k v hk n1 nv
    refine (hget k v).mpr ⟨hk, n1, fun e => ?_, fun d hd e => ?_⟩
    · rw [e, p2] at hk
      exact nv (Option.some.inj hk).symm
    · rw [e, p3 d hd] at hk
      exact nv (Option.some.inj hk).symm
  have keptPair : ∀ id v, get s (aggPairKey id) = some v → id ≠ env.pairId b → get (aggDelPair env s b) (aggPairKey id) = some v :=
    fun id v hk n => (hget _ v).mpr ⟨hk, fun e => n (List.cons.inj e).2, (aggErc20Key_ne_pairKey _ _).symm,
      fun _ _ => (aggDenomKey_ne_pairKey _ _).symm⟩
  refine aggKeys_iff_get.mpr ⟨sorted_aggDelPair hS b, fun k v hkv => ?_⟩
  obtain ⟨hold, n1, n2, n3⟩ := (hget k v).mp hkv
  have hok := hK k v hold
  rcases aggKey_shape hok with ⟨id, rfl⟩ | ⟨e, rfl⟩ | ⟨d, rfl⟩
  · -- another pair: its index entries point to its own id
    obtain ⟨a1, a2, a3⟩ := aggKeyOk_pair.mp hok
    have hid : id ≠ env.pairId b := fun e => n1 (e ▸ rfl)
    exact aggKeyOk_pair.mpr ⟨a1, keptIdx _ _ a2 (aggErc20Key_ne_pairKey _ _) hid,
      fun d hd => keptIdx _ _ (a3 d hd) (aggDenomKey_ne_pairKey _ _) hid⟩
  · -- a contract index entry of another pair: had it pointed to the deleted pair, it would be that pair's own and gone
    obtain ⟨b', g1, g2, g3⟩ := aggKeyOk_erc.mp hok
    refine aggKeyOk_erc.mpr ⟨b', keptPair v b' g1 (fun e => ?_), g2, g3⟩
    rw [e, hb] at g1
    cases Option.some.inj g1
    exact n2 (g2 ▸ rfl)
  · obtain ⟨b', g1, g2, g3⟩ := aggKeyOk_den.mp hok
    refine aggKeyOk_den.mpr ⟨b', keptPair v b' g1 (fun e => ?_), g2, g3⟩
    rw [e, hb] at g1
    cases Option.some.inj g1
    exact n3 d g2 rfl

theorem applyAgg_invariant {env : Env} {s : Store} (h : AggKeys env s ∧ AggWellFormed env s) (op : AggOp) :
    AggKeys env (applyAgg env s op) ∧ AggWellFormed env (applyAgg env s op) := by
  obtain ⟨hk, hw⟩ := h
  have hS := ((aggKeys_iff env s).mp hk).1
  have hwf := aggWellFormed_iff.mp hw
  cases op with
  | set b =>
    cases hg : aggSetGuard env s b <;> simp only [applyAgg, hg, Bool.false_eq_true, if_false, if_true]
    · exact ⟨hk, hw⟩
    · obtain ⟨fresh, hne, hv⟩ := aggSetGuard_spec hg
      refine ⟨aggKeys_set hk hg, aggWellFormed_iff.mpr (fun b' hb' => ?_)⟩
      obtain ⟨id, hm⟩ := mem_exportAgg.mp hb'
      rcases (get_aggSetPair hS fresh _ _).mp ((mem_iff_get (sorted_setAll hS _) _ _).mp hm) with hw' | hold
      · -- the only write under a pair key is the new pair itself
        rcases mem_aggPairWrites.mp hw' with e | ⟨d, -, e⟩ | e
        · cases e; exact ⟨hv, hne⟩
        · exact absurd (Prod.mk.inj e).1 (aggDenomKey_ne_pairKey _ _)
        · exact absurd (Prod.mk.inj e).1 (aggErc20Key_ne_pairKey _ _).symm
      · exact hwf b' (mem_exportAgg.mpr ⟨id, (mem_iff_get hS _ _).mpr hold⟩)
  | del b =>
    cases hg : aggDelGuard env s b <;> simp only [applyAgg, hg, Bool.false_eq_true, if_false, if_true]
    · exact ⟨hk, hw⟩
    · refine ⟨aggKeys_del hk hg, aggWellFormed_iff.mpr (fun b' hb' => ?_)⟩
      obtain ⟨id, hm⟩ := mem_exportAgg.mp hb'
      have hg' := (get_aggDelPair hS b _ _).mp ((mem_iff_get (sorted_aggDelPair hS b) _ _).mp hm)
      exact hwf b' (mem_exportAgg.mpr ⟨id, (mem_iff_get hS _ _).mpr hg'.1⟩)

theorem aggKeys_empty (env : Env) : AggKeys env [] ∧ AggWellFormed env [] :=
  ⟨(aggKeys_iff env []).mpr ⟨sorted_nil, fun _ h => absurd h List.not_mem_nil⟩, rfl⟩

/-- **every registry reachable from the empty one by the operations behind RegisterCoin / RegisterERC20 / AddCoin /
ToggleTokenRelay / UpdateTokenPairERC20 / the self-destruct clean-up satisfies `AggKeys`** (each denomination and each contract
in exactly one pair, indexes agree) and is well formed -/
theorem agg_reachable (env : Env) (ops : List AggOp) :
    AggKeys env (ops.foldl (applyAgg env) []) ∧ AggWellFormed env (ops.foldl (applyAgg env) []) :=
  List.foldlRecOn (motive := fun s => AggKeys env s ∧ AggWellFormed env s) ops (applyAgg env) (aggKeys_empty env)
    (fun _ h op _ => applyAgg_invariant h op)

/-- the export of every reachable registry passes `GenesisState.Validate` … -/
theorem agg_reachable_export_validates (env : Env) (ops : List AggOp) (p : Store) :
    validateAggregate env (exportAggregate ⟨ops.foldl (applyAgg env) [], p⟩) = true :=
  export_validates_aggregate (st := ⟨_, p⟩) (agg_reachable env ops).1 (agg_reachable env ops).2

/-- … and a fresh chain initialised from it reproduces the registry -/
theorem agg_reachable_roundtrip (env : Env) (ops : List AggOp) {p : Store} (hp : Sorted p) :
    initAggregate env (exportAggregate ⟨ops.foldl (applyAgg env) [], p⟩) = ⟨ops.foldl (applyAgg env) [], p⟩ :=
  roundtrip_aggregate (st := ⟨_, p⟩) (agg_reachable env ops).1 hp

/-- an UpdateTokenPairERC20 that computes the delete from the NEW address, so that the old record and its contract index
survive (trial change `seeded/C13-8`), on the toy registry: the old pair stays beside the new one, two pairs list the same denominations, and the export fails the
module's own validation -/
def toyUpdated : Store := aggSetPair toyEnv toyAgg [8, 10, 100, 101]

theorem stale_pair_breaks_validation :
    ¬ AggKeys toyEnv toyUpdated ∧ validateAgg toyEnv (exportAgg toyUpdated) = false := by
  unfold AggKeys; decide +kernel

/-! ## module-level import = keeper-level import ∘ JSON decode -/

/-- **no defaulting**: for every genesis state `g` whatsoever — all switches off, zero-valued structs, empty lists included — the
module-level import of its JSON is the keeper-level import of `g` itself. `moduleInit` is decode-then-init by definition, so
this unfolds it under the one assumption `decode (encode g) = g` (the JSON codec's round trip, checked by every harness run);
that the real `AppModule.InitGenesis` does nothing else is what the differential run checks. -/
theorem module_import_no_defaulting {G S : Type} (encode : G → Bytes) (decode : Bytes → Option G) (init : G → S)
    (hc : ∀ g, decode (encode g) = some g) (g : G) : moduleInit decode init (encode g) = .ok (init g) := by
  simp [moduleInit, hc g]

/-- export through `AppModule.ExportGenesis`, import through `AppModule.InitGenesis`: the aggregate module state comes back
unchanged, whatever the parameter values are -/
theorem module_roundtrip_aggregate {env : Env} (encode : AggGenesis → Bytes) (decode : Bytes → Option AggGenesis)
    (hc : ∀ g, decode (encode g) = some g) {st : AggState} (h : AggKeys env st.a) (hp : Sorted st.p) :
    moduleInit decode (initAggregate env) (encode (exportAggregate st)) = .ok st := by
  rw [module_import_no_defaulting encode decode _ hc, roundtrip_aggregate h hp]

/-- the same for the xibc module -/
theorem module_roundtrip_xibc (encode : Genesis → Bytes) (decode : Bytes → Option Genesis)
    (hc : ∀ g, decode (encode g) = some g) {s : Store} (h : ModuleKeys s) :
    moduleInit decode initXibc (encode (exportXibc s)) = .ok s := by
  rw [module_import_no_defaulting encode decode _ hc, roundtrip h]

/-- toy parameter stores: key 1 = EnableAggregate, key 2 = EnableEVMHook; value 0 = false, 1 = true -/
def toyParamsOff : Store := [([1], [0]), ([2], [0])]
def toyParamsDefault : Store := [([1], [1]), ([2], [1])]

/-- an import that reads a zero-valued `Params` as "absent" and puts the defaults (`initAggregateDefaulting`, trial change
`seeded/C13-10`): a chain whose governance switched both parameters off comes back with both switched on -/
theorem defaulting_breaks_roundtrip :
    Sorted toyParamsOff ∧
    initAggregateDefaulting toyEnv toyParamsOff toyParamsDefault (exportAggregate ⟨toyAgg, toyParamsOff⟩) ≠ ⟨toyAgg, toyParamsOff⟩ ∧
    initAggregate toyEnv (exportAggregate ⟨toyAgg, toyParamsOff⟩) = ⟨toyAgg, toyParamsOff⟩ := by
  have hs : Sorted toyParamsOff := (sortedB_iff _).mp (by decide +kernel)
  -- the two states differ in the parameter store, which comes back as the defaults
  exact ⟨hs, fun h => absurd (congrArg AggState.p h) (by decide +kernel),
    roundtrip_aggregate (st := ⟨toyAgg, toyParamsOff⟩) toyAgg_keys hs⟩

end TM.Genesis
