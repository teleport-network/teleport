import TeleportModel.Model.Abi
/-
C19 — the ABI tuple encoding is loss-free, injective and canonical:
`decodeTop (types of vs) (encodeTop vs) = some vs` for every value list that fits into memory.
Proof shape: the decoder only ever reads the buffer at an offset, so the invariant of the induction over the remaining
components says where things stand in the buffer: the remaining heads at `32·i`, the remaining tails at `off`
(`w <+: out.drop i` is "`w` stands in `out` at offset `i`").
-/
namespace TM.C19
open TM TM.Abi

theorem length_toBE (k n : Nat) : (toBE k n).length = k := by
  fun_induction toBE k n with
  | case1 => rfl
  | case2 k n ih => rw [List.length_append, ih]; rfl

theorem ofBE_snoc (a : Bytes) (x : UInt8) : ofBE (a ++ [x]) = ofBE a * 256 + x.toNat := by
  simp [ofBE, List.foldl_append]

theorem ofBE_toBE (k n : Nat) (h : n < 256 ^ k) : ofBE (toBE k n) = n := by
  fun_induction toBE k n with
  | case1 n => rw [Nat.lt_one_iff.mp h]; rfl
  | case2 k n ih =>
    have h1 : n / 256 < 256 ^ k := Nat.div_lt_of_lt_mul (by rw [Nat.mul_comm, ← Nat.pow_succ]; exact h)
    have h2 : (UInt8.ofNat (n % 256)).toNat = n % 256 := UInt8.toNat_ofNat_of_lt' (Nat.mod_lt n (by decide))
    rw [ofBE_snoc, ih h1, h2, Nat.div_add_mod']

theorem toBE_add (a b n : Nat) : toBE (a + b) n = toBE a (n / 256 ^ b) ++ toBE b n := by
  induction b generalizing n with
  | zero => simp [toBE]
  | succ b ih =>
    rw [← Nat.add_assoc, toBE, ih, toBE, Nat.div_div_eq_div_mul, Nat.pow_succ, Nat.mul_comm 256, List.append_assoc]

theorem length_word (n : Nat) : (word n).length = 32 := length_toBE 32 n

theorem ofBE_word (n : Nat) (h : n < 2 ^ 256) : ofBE (word n) = n :=
  ofBE_toBE 32 n (Nat.lt_of_lt_of_eq h (by decide))

theorem length_encDyn (s : Bytes) : (encDyn s).length = 32 + s.length + padLen s.length := by
  simp only [encDyn, List.length_append, length_word, List.length_replicate]

theorem slice_of_prefix {out w : Bytes} {i n : Nat} (h : w <+: out.drop i) (hn : w.length = n) : slice out i n = w := by
  subst hn; exact (List.prefix_iff_eq_take.mp h).symm

theorem prefix_drop_of_append {out a b : Bytes} {i j : Nat} (h : a ++ b <+: out.drop i) (hj : j = i + a.length) :
    b <+: out.drop j := by
  obtain ⟨t, ht⟩ := h
  refine ⟨t, ?_⟩
  rw [hj, ← List.drop_drop, ← ht, List.append_assoc, List.drop_left]

theorem le_length_of_prefix_drop {out w : Bytes} {i n : Nat} (h : w <+: out.drop i) (hn : w.length = n) (hw : 0 < n) :
    i + n ≤ out.length := by
  have := h.length_le
  rw [List.length_drop, hn] at this
  omega

theorem decElem_u64 {out : Bytes} {i : Nat} {n : UInt64} (h : word n.toNat <+: out.drop (i * 32)) :
    decElem out i .uint64 = some (.u64 n) := by
  have hlen := le_length_of_prefix_drop h (length_word _) (by decide)
  rw [word, toBE_add 24 8] at h
  have hs : slice out (i * 32 + 24) 8 = toBE 8 n.toNat :=
    slice_of_prefix (prefix_drop_of_append h (by rw [length_toBE])) (length_toBE 8 _)
  unfold decElem
  rw [if_neg (Nat.not_lt.mpr hlen)]
  simp only [hs, ofBE_toBE 8 _ n.toNat_lt, UInt64.ofNat_toNat]

theorem decElem_dyn {out s : Bytes} {i off : Nat} {v : Val} (hv : v = .str s ∨ v = .bytes s)
    (h1 : word off <+: out.drop (i * 32)) (h2 : encDyn s <+: out.drop off) (hb : out.length < 2 ^ 256) :
    decElem out i v.ty = some v := by
  have hws : word s.length ++ s <+: out.drop off := (List.prefix_append _ _).trans h2
  have r1 : slice out (i * 32) 32 = word off := slice_of_prefix h1 (length_word _)
  have r2 : slice out off 32 = word s.length := slice_of_prefix ((List.prefix_append _ _).trans hws) (length_word _)
  have r3 : slice out (off + 32) s.length = s := slice_of_prefix (prefix_drop_of_append hws (by rw [length_word])) rfl
  have l1 := le_length_of_prefix_drop h1 (length_word _) (by decide)
  have l3 := le_length_of_prefix_drop hws (by rw [List.length_append, length_word]) (Nat.lt_add_right _ (by decide))
  rw [← Nat.add_assoc] at l3
  have l2 : off + 32 ≤ out.length := Nat.le_trans (Nat.le_add_right _ _) l3
  have o1 : off < 2 ^ 256 := Nat.lt_of_le_of_lt (Nat.le_trans (Nat.le_add_right _ _) l2) hb
  have o2 : s.length < 2 ^ 256 := Nat.lt_of_le_of_lt (Nat.le_trans (Nat.le_add_left _ _) l3) hb
  unfold decElem
  rw [if_neg (Nat.not_lt.mpr l1)]
  rcases hv with rfl | rfl <;>
    simp only [Val.ty, r1, ofBE_word off o1, Nat.add_sub_cancel, r2, ofBE_word s.length o2, r3, Nat.not_lt.mpr l2,
      Nat.not_lt.mpr l3, reduceCtorEq, if_false, if_true]

theorem encGo_u64 (n : UInt64) (r : List Val) (off : Nat) :
    encGo (.u64 n :: r) off = (word n.toNat ++ (encGo r off).1, (encGo r off).2) := rfl

theorem encGo_dyn {v : Val} {s : Bytes} (hv : v = .str s ∨ v = .bytes s) (r : List Val) (off : Nat) :
    encGo (v :: r) off =
      (word off ++ (encGo r (off + (encDyn s).length)).1, encDyn s ++ (encGo r (off + (encDyn s).length)).2) := by
  rcases hv with rfl | rfl <;> rfl

theorem encGo_heads_length (r : List Val) (off : Nat) : (encGo r off).1.length = 32 * r.length := by
  induction r generalizing off with
  | nil => rfl
  | cons v r ih =>
    cases v <;>
      simp only [encGo_u64, encGo_dyn (Or.inl rfl), encGo_dyn (Or.inr rfl), List.length_append, length_word, ih, List.length_cons, Nat.mul_succ,
        Nat.add_comm]

theorem decTupleAt_inv {out : Bytes} (hb : out.length < 2 ^ 256) (r : List Val) : ∀ (i off : Nat),
    (encGo r off).1 <+: out.drop (i * 32) → (encGo r off).2 <+: out.drop off →
    decTupleAt out i (r.map Val.ty) = some r := by
  induction r with
  | nil => intros; rfl
  | cons v r ih =>
    intro i off hh ht
    have hi : (i + 1) * 32 = i * 32 + 32 := Nat.succ_mul i 32
    have dyn : ∀ s, (v = .str s ∨ v = .bytes s) → decTupleAt out i ((v :: r).map Val.ty) = some (v :: r) := by
      intro s hv
      rw [encGo_dyn hv] at hh ht
      have e := decElem_dyn hv ((List.prefix_append _ _).trans hh) ((List.prefix_append _ _).trans ht) hb
      have := ih (i + 1) _ (prefix_drop_of_append hh (by rw [length_word, hi])) (prefix_drop_of_append ht rfl)
      simp only [List.map_cons, decTupleAt, e, this]
    cases v with
    | u64 n =>
      rw [encGo_u64] at hh ht
      have e := decElem_u64 ((List.prefix_append _ _).trans hh)
      have := ih (i + 1) off (prefix_drop_of_append hh (by rw [length_word, hi])) ht
      simp only [List.map_cons, Val.ty, decTupleAt, e, this]
    | str s => exact dyn s (Or.inl rfl)
    | bytes s => exact dyn s (Or.inr rfl)

theorem encodeTuple_eq (vs : List Val) :
    encodeTuple vs = (encGo vs (32 * vs.length)).1 ++ (encGo vs (32 * vs.length)).2 := rfl

/-- **decode ∘ encode = id** at the ABI level (no JSON step), for every value list whose encoding is shorter
    than 2^256 bytes (any Go slice is shorter than 2^63). -/
theorem decode_encode_raw (vs : List Val) (hsz : (encodeTop vs).length < 2 ^ 256) :
    decodeTop (vs.map Val.ty) (encodeTop vs) = some vs := by
  have hlen : (encodeTop vs).length = 32 + (encodeTuple vs).length := by rw [encodeTop, List.length_append, length_word]
  have htake : (encodeTop vs).take 32 = word 32 := List.take_left' (length_word 32)
  have hdrop : (encodeTop vs).drop 32 = encodeTuple vs := List.drop_left' (length_word 32)
  have h32 : 32 ≤ (encodeTop vs).length := hlen ▸ Nat.le_add_right 32 _
  unfold decodeTop
  rw [if_neg (Nat.ne_of_gt (Nat.lt_of_lt_of_le (by decide) h32)), if_neg (Nat.not_lt.mpr h32)]
  simp only [htake, ofBE_word 32 (by decide), hdrop]
  rw [if_neg (Nat.not_lt.mpr h32)]
  apply decTupleAt_inv (Nat.lt_of_le_of_lt (hlen ▸ Nat.le_add_left _ 32) hsz) vs 0 (32 * vs.length)
  · rw [encodeTuple_eq]; exact List.prefix_append _ _
  · rw [encodeTuple_eq, List.drop_left' (encGo_heads_length vs _)]; exact List.prefix_refl _

/-- the encoding is injective on value lists of the same shape (no UTF-8 hypothesis) -/
theorem encode_injective (vs ws : List Val) (hty : vs.map Val.ty = ws.map Val.ty)
    (hv : (encodeTop vs).length < 2 ^ 256) (he : encodeTop vs = encodeTop ws) : vs = ws := by
  have h1 := decode_encode_raw vs hv
  have h2 := decode_encode_raw ws (he ▸ hv)
  rw [he, hty, h2] at h1
  exact (Option.some.inj h1).symm

/-- decoding the canonical bytes and encoding again reproduces them -/
theorem reencode_canonical (vs : List Val) (b : Bytes) (hb : b = encodeTop vs) (hsz : b.length < 2 ^ 256) :
    ∃ vs', decodeTop (vs.map Val.ty) b = some vs' ∧ encodeTop vs' = b := by
  subst hb
  exact ⟨vs, decode_encode_raw vs hsz, rfl⟩

def Collision (hash : Bytes → Bytes) (a b : Bytes) : Prop := a ≠ b ∧ hash a = hash b

/-- two different packets with the same commitment exhibit a collision of the hash function -/
theorem commitment_distinct (hash : Bytes → Bytes) (vs ws : List Val) (hty : vs.map Val.ty = ws.map Val.ty)
    (hv : (encodeTop vs).length < 2 ^ 256) (hne : vs ≠ ws)
    (hc : hash (encodeTop vs) = hash (encodeTop ws)) : Collision hash (encodeTop vs) (encodeTop ws) :=
  ⟨fun he => hne (encode_injective vs ws hty hv he), hc⟩

end TM.C19
