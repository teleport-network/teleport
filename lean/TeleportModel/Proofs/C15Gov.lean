import TeleportModel.Model.GovCycle
import TeleportModel.Proofs.C20
import TeleportModel.Lemmas.Outcome
/-
C15 (gov life cycle part): the gov module's own EndBlocker paths — deposit burn / refund through the bank adapter, for every
proposal life-cycle state reachable from validated messages — and the staking burns never hit the callers' `panic(err)`.
-/
namespace TM.GovCycle
open TM TM.Vesting

/-- a stored `Coins` value `SendCoins` accepts (`IsValid`): positive amounts, valid denominations, no duplicates.
The EMPTY set satisfies it. -/
def CoinsOk (cs : Coins) : Prop := (∀ c ∈ cs, 0 < c.2 ∧ validDenom c.1 = true) ∧ (cs.map (·.1)).Nodup

theorem coinsOk_nil : CoinsOk [] := ⟨fun _ hc => (nomatch hc), List.nodup_nil⟩

theorem coinsOk_cons {d : Denom} {a : Int} {rest : Coins} (hd : validDenom d = true) (ha : 0 < a)
    (h : CoinsOk rest) (hn : ∀ c ∈ rest, c.1 ≠ d) : CoinsOk ((d, a) :: rest) := by
  refine ⟨List.forall_mem_cons.mpr ⟨⟨ha, hd⟩, h.1⟩, List.nodup_cons.mpr ⟨fun hm => ?_, h.2⟩⟩
  obtain ⟨c, hc, e⟩ := List.mem_map.mp hm
  exact hn c hc e

/-! ### `Coins.Validate` establishes `CoinsOk` -/

theorem rawValidTail_spec (cs : Coins) (low : Denom) (seen : List Denom) (h : rawValidTail cs low seen = true) :
    CoinsOk cs ∧ ∀ c ∈ cs, c.1 ∉ seen := by
  induction cs generalizing low seen with
  | nil => exact ⟨coinsOk_nil, fun c hc => nomatch hc⟩
  | cons x rest ih =>
    obtain ⟨d, a⟩ := x
    simp only [rawValidTail, Bool.and_eq_true, decide_eq_true_eq] at h
    obtain ⟨⟨⟨⟨hs, hv⟩, _⟩, ha⟩, hr⟩ := h
    obtain ⟨i1, i2⟩ := ih d (d :: seen) hr
    refine ⟨coinsOk_cons hv ha i1 fun c hc e => i2 c hc (e ▸ List.mem_cons_self), fun c hc hm => ?_⟩
    rcases List.mem_cons.mp hc with rfl | hc
    · rw [List.contains_iff_mem.mpr hm] at hs
      cases hs
    · exact i2 c hc (List.mem_cons_of_mem _ hm)

/-- `MsgSubmitProposal` / `MsgDeposit` `ValidateBasic` ⇒ the amount is valid-or-empty. -/
theorem rawValid_ok (cs : Coins) (h : rawValid cs = true) : CoinsOk cs := by
  cases cs with
  | nil => exact coinsOk_nil
  | cons x rest =>
    obtain ⟨d, a⟩ := x
    simp only [rawValid, Bool.and_eq_true, decide_eq_true_eq] at h
    obtain ⟨i1, i2⟩ := rawValidTail_spec rest d [d] h.2
    exact coinsOk_cons h.1.1 h.1.2 i1 fun c hc e => i2 c hc (e ▸ List.mem_cons_self)

theorem msgCoinsOk_ok (cs : Coins) (h : msgCoinsOk cs = true) : CoinsOk cs :=
  rawValid_ok cs (Bool.and_eq_true_iff.mp h).1

theorem amountOf_addCoins (a b : Coins) (d : Denom) : amountOf (addCoins a b) d = amountOf a d + amountOf b d := by
  induction b generalizing a with
  | nil => exact (Int.add_zero _).symm
  | cons x rest ih =>
    obtain ⟨x, v⟩ := x
    show amountOf (addCoins (addCoin a x v) rest) d = _
    rw [ih, amountOf_addCoin, amountOf_cons, Int.add_assoc]

theorem addCoin_ok (a : Coins) (x : Denom) (v : Int) (ha : CoinsOk a) (hv : 0 < v) (hx : validDenom x = true) :
    CoinsOk (addCoin a x v) := by
  obtain ⟨n1, n2⟩ := addCoin_nodup a x v ha.2
  refine ⟨fun c hc => ⟨addCoin_pos a x v (Int.le_of_lt hv) (fun c hc => (ha.1 c hc).1) c hc, ?_⟩, n1⟩
  rcases n2 c.1 (List.mem_map_of_mem hc) with h | h
  · exact h ▸ hx
  · obtain ⟨c', hc', he⟩ := List.mem_map.mp h
    exact he ▸ (ha.1 c' hc').2

theorem addCoins_ok (a b : Coins) (ha : CoinsOk a) (hb : ∀ c ∈ b, 0 < c.2 ∧ validDenom c.1 = true) :
    CoinsOk (addCoins a b) := by
  induction b generalizing a with
  | nil => exact ha
  | cons x rest ih =>
    obtain ⟨⟨hv, hx⟩, hb⟩ := List.forall_mem_cons.mp hb
    exact ih _ (addCoin_ok a x.1 x.2 ha hv hx) hb

theorem sendFrom_some (bal : Denom → Int) (cs : Coins) (hv : CoinsOk cs) (hc : ∀ d, amountOf cs d ≤ bal d) :
    sendFrom bal cs = some (fun d => bal d - amountOf cs d) := by
  have h1 : coinsOkB cs = true := by
    simp only [coinsOkB, Bool.and_eq_true, List.all_eq_true, decide_eq_true_eq]
    exact hv
  have h2 : cs.all (fun c => decide (c.2 ≤ bal c.1)) = true :=
    List.all_eq_true.mpr fun c hcm => decide_eq_true
      (Int.le_trans (amountOf_ge_mem cs (fun c hc => Int.le_of_lt (hv.1 c hc).1) c hcm) (hc c.1))
  simp only [sendFrom, h1, h2, Bool.or_true, Bool.not_true, Bool.false_eq_true, if_false, if_true]

/-- **adapter_burn_no_error_on_valid_or_empty**: the adapter's `BurnCoins` returns no error on every `Coins` value its
cosmos-sdk callers can pass — valid (positive, valid denominations, no duplicates) or EMPTY — that the module account covers. -/
theorem adapter_burn_no_error_on_valid_or_empty (bal : Denom → Int) (cs : Coins) (hv : cs = [] ∨ CoinsOk cs)
    (hc : ∀ d, amountOf cs d ≤ bal d) : ∃ b, burnRedirect bal cs = some b ∧ ∀ d, b d = bal d - amountOf cs d :=
  ⟨_, sendFrom_some bal cs (hv.elim (· ▸ coinsOk_nil) id) hc, fun _ => rfl⟩

/-- in particular the EMPTY deposit of a proposal submitted without initial deposit, whatever the balance. -/
theorem adapter_burn_empty (bal : Denom → Int) : (burnRedirect bal []).isSome = true := rfl

/-! ### the deposit invariant -/

def total (L : List Dep) (d : Denom) : Int := (L.map (fun x => amountOf x.amount d)).sum

def Inv (s : GSt) : Prop := (∀ x ∈ s.deps, CoinsOk x.amount) ∧ (∀ d, total s.deps d ≤ s.bal d)

theorem inv_init : Inv {} := ⟨fun _ hx => (nomatch hx), fun _ => Int.le_refl 0⟩

theorem total_cons (x : Dep) (L : List Dep) (d : Denom) : total (x :: L) d = amountOf x.amount d + total L d := rfl

theorem total_nonneg (L : List Dep) (h : ∀ x ∈ L, CoinsOk x.amount) (d : Denom) : 0 ≤ total L d := by
  induction L with
  | nil => exact Int.le_refl 0
  | cons x rest ih =>
    obtain ⟨hx, h⟩ := List.forall_mem_cons.mp h
    exact Int.add_nonneg (amountOf_nonneg x.amount (fun c hc => Int.le_of_lt (hx.1 c hc).1) d) (ih h)

theorem total_split (L : List Dep) (id : Nat) (d : Denom) :
    total L d = total (L.filter (·.pid = id)) d + total (L.filter (·.pid ≠ id)) d := by
  induction L with
  | nil => rfl
  | cons x rest ih =>
    by_cases hp : x.pid = id
    · simp only [List.filter_cons, hp, decide_true, ne_eq, not_true_eq_false, decide_false, if_true,
        Bool.false_eq_true, if_false, total_cons, ih, Int.add_assoc]
    · simp only [List.filter_cons, hp, decide_true, ne_eq, not_false_eq_true, decide_false, if_true,
        Bool.false_eq_true, if_false, total_cons, ih, Int.add_left_comm]

theorem payOut_spec (L : List Dep) (bal : Denom → Int) (hv : ∀ x ∈ L, CoinsOk x.amount) (hc : ∀ d, total L d ≤ bal d) :
    ∃ b, payOut bal L = some b ∧ ∀ d, b d = bal d - total L d := by
  induction L generalizing bal with
  | nil => exact ⟨bal, rfl, fun d => (Int.sub_zero _).symm⟩
  | cons x rest ih =>
    obtain ⟨hx, hrest⟩ := List.forall_mem_cons.mp hv
    -- the first deposit is covered because the remaining ones are owed a non-negative amount
    have hs := sendFrom_some bal x.amount hx fun d =>
      Int.le_trans (Int.le_add_of_nonneg_right (total_nonneg rest hrest d)) (hc d)
    obtain ⟨b, hb, hbd⟩ := ih (fun d => bal d - amountOf x.amount d) hrest fun d =>
      Int.le_sub_left_of_add_le (hc d)
    refine ⟨b, ?_, fun d => ?_⟩
    · simp only [payOut, hs]; exact hb
    · rw [hbd d, total_cons, Int.sub_sub]

/-- settling one proposal's deposits (burn through the adapter, or refund) never hits the callers' `panic(err)`. -/
theorem settle_spec (s : GSt) (id : Nat) (h : Inv s) :
    ∃ s', settle s id = .ok s' ∧ Inv s' ∧ s'.props = s.props ∧ s'.now = s.now := by
  obtain ⟨hv, hc⟩ := h
  have hf : ∀ (p : Dep → Bool), ∀ x ∈ s.deps.filter p, CoinsOk x.amount := fun _ x hx => hv x (List.mem_filter.mp hx).1
  -- what is owed to this proposal's depositors and to the others adds up to what the account covers
  have hsum : ∀ d, total (s.deps.filter (·.pid = id)) d + total (s.deps.filter (·.pid ≠ id)) d ≤ s.bal d :=
    fun d => total_split s.deps id d ▸ hc d
  obtain ⟨b, hb, hbd⟩ := payOut_spec _ s.bal (hf _) fun d =>
    Int.le_trans (Int.le_add_of_nonneg_right (total_nonneg _ (hf _) d)) (hsum d)
  refine ⟨{ s with bal := b, deps := s.deps.filter (·.pid ≠ id) }, ?_, ⟨hf _, fun d => ?_⟩, rfl, rfl⟩
  · simp only [settle, hb]
  · exact Int.le_trans (Int.le_sub_left_of_add_le (hsum d)) (Int.le_of_eq (hbd d).symm)

theorem dropInactive_spec (L : List Proposal) (s : GSt) (h : Inv s) :
    ∃ s', dropInactive L s = .ok s' ∧ Inv s' := by
  induction L generalizing s with
  | nil => exact ⟨s, rfl, h⟩
  | cons p rest ih =>
    rw [dropInactive]
    by_cases hc : p.status = .deposit ∧ p.depositEnd ≤ s.now
    · obtain ⟨s1, h1, hi, _, _⟩ := settle_spec s p.id h
      rw [if_pos hc, h1]
      exact ih _ hi
    · rw [if_neg hc]
      exact ih s h

theorem verdictOf_noPanic (ext : List (Nat × Verdict)) (hx : ∀ e ∈ ext, e.2 ≠ .pass .panic) (id : Nat) :
    verdictOf ext id ≠ .pass .panic := by
  unfold verdictOf
  cases hf : ext.find? (·.1 = id) with
  | none => simp
  | some e => exact hx e (List.mem_of_find?_eq_some hf)

theorem closeActive_spec (ext : List (Nat × Verdict)) (hx : ∀ e ∈ ext, e.2 ≠ .pass .panic)
    (L : List Proposal) (s : GSt) (h : Inv s) : ∃ s', closeActive ext L s = .ok s' ∧ Inv s' := by
  induction L generalizing s with
  | nil => exact ⟨s, rfl, h⟩
  | cons p rest ih =>
    rw [closeActive]
    by_cases hc : p.status = .voting ∧ p.votingEnd ≤ s.now
    · obtain ⟨s1, h1, hi, _, _⟩ := settle_spec s p.id h
      rw [if_pos hc, h1]
      -- whatever the verdict, only the proposal's status is written, and `Inv` does not read the proposals
      cases hvd : verdictOf ext p.id with
      | pass r =>
        cases r with
        | panic => exact absurd hvd (verdictOf_noPanic ext hx p.id)
        | _ => exact ih _ hi
      | _ => exact ih _ hi
    · rw [if_neg hc]
      exact ih s h

/-- `gov.EndBlocker` in a state satisfying the deposit invariant: no panic on the deposit paths (dropped / vetoed ⇒ burned
through the adapter; rejected / passed / failed ⇒ refunded), provided no handler panics (`TM.NoPanic`). -/
theorem endBlock_spec (ext : List (Nat × Verdict)) (hx : ∀ e ∈ ext, e.2 ≠ .pass .panic) (s : GSt) (h : Inv s) :
    ∃ s', endBlock ext s = .ok s' ∧ Inv s' := by
  unfold endBlock
  obtain ⟨s1, h1, hi⟩ := dropInactive_spec s.props s h
  rw [h1]
  exact closeActive_spec ext hx s1.props s1 hi

/-! ### messages keep the invariant -/

theorem upsert_spec (L : List Dep) (id : Nat) (w : String) (raw : Coins) (hraw : CoinsOk raw)
    (hv : ∀ x ∈ L, CoinsOk x.amount) :
    (∀ x ∈ upsert L id w raw, CoinsOk x.amount) ∧ ∀ d, total (upsert L id w raw) d = total L d + amountOf raw d := by
  induction L with
  | nil => exact ⟨fun x hx => List.mem_singleton.mp hx ▸ hraw, fun d => Int.add_comm _ _⟩
  | cons x rest ih =>
    obtain ⟨hx, hrest⟩ := List.forall_mem_cons.mp hv
    rw [upsert]
    by_cases hc : x.pid = id ∧ x.who = w
    · rw [if_pos hc]
      refine ⟨List.forall_mem_cons.mpr ⟨addCoins_ok _ _ hx hraw.1, hrest⟩, fun d => ?_⟩
      rw [total_cons, total_cons, amountOf_addCoins, Int.add_right_comm]
    · obtain ⟨i1, i2⟩ := ih hrest
      rw [if_neg hc]
      refine ⟨List.forall_mem_cons.mpr ⟨hx, i1⟩, fun d => ?_⟩
      rw [total_cons, total_cons, i2, Int.add_assoc]

theorem addDeposit_inv (s s' : GSt) (id : Nat) (w : String) (raw : Coins) (cp : Bool) (h : Inv s)
    (hraw : msgCoinsOk raw = true) (hr : addDeposit s id w raw cp = .ok s') : Inv s' := by
  unfold addDeposit at hr
  split at hr
  · cases hr
  · cases (ite_err_eq_ok.mp (ite_err_eq_ok.mp hr).2).2
    obtain ⟨u1, u2⟩ := upsert_spec s.deps id w raw (msgCoinsOk_ok raw hraw) h.1
    exact ⟨u1, fun d => (u2 d).symm ▸ Int.add_le_add_right (h.2 d) _⟩

theorem submitExec_inv (s s' : GSt) (w : String) (raw : Coins) (hOk cp : Bool) (h : Inv s)
    (hraw : msgCoinsOk raw = true) (hr : submitExec s w raw hOk cp = .ok s') : Inv s' := by
  -- the proposal list and the id counter are not part of `Inv`
  refine addDeposit_inv _ s' _ w raw cp ?_ hraw (ite_err_eq_ok.mp hr).2
  exact h

inductive Op
  | submit (vbRest : Bool) (who : String) (raw : Coins) (hOk canPay : Bool)
  | deposit (vbRest : Bool) (id : Nat) (who : String) (raw : Coins) (canPay : Bool)
  | advance (secs : Nat)
  | endBlock (ext : List (Nat × Verdict))

/-- one block-level step as the chain performs it: a message is executed only when its `ValidateBasic` accepts (and its
effects are kept only on success); `EndBlocker` runs with NO recover. -/
def step (s : GSt) : Op → Out GSt
  | .submit vb who raw hOk cp =>
    if vb && msgCoinsOk raw then (match submitExec s who raw hOk cp with | .ok s' => .ok s' | _ => .ok s) else .ok s
  | .deposit vb id who raw cp =>
    if vb && msgCoinsOk raw then (match addDeposit s id who raw cp with | .ok s' => .ok s' | _ => .ok s) else .ok s
  | .advance n => .ok { s with now := s.now + n }
  | .endBlock ext => endBlock ext s

def run : GSt → List Op → Out GSt
  | s, [] => .ok s
  | s, o :: rest => match step s o with | .ok s' => run s' rest | .err e => .err e | .panic m => .panic m

def handlersFine : Op → Prop
  | .endBlock ext => ∀ e ∈ ext, e.2 ≠ .pass .panic
  | _ => True

/-- the shape of both message steps: executed only when `ValidateBasic` accepts, effect kept only on success. -/
theorem kept_of_ok {s : GSt} {c : Bool} {r : Out GSt} (h : Inv s) (hr : c = true → ∀ s', r = .ok s' → Inv s') :
    ∃ s', (if c then (match r with | .ok s' => .ok s' | _ => .ok s) else .ok s) = Outcome.ok s' ∧ Inv s' := by
  cases c with
  | false => exact ⟨s, rfl, h⟩
  | true =>
    cases r with
    | ok s' => exact ⟨s', rfl, hr rfl s' rfl⟩
    | _ => exact ⟨s, rfl, h⟩

theorem step_spec (s : GSt) (o : Op) (h : Inv s) (ho : handlersFine o) : ∃ s', step s o = .ok s' ∧ Inv s' := by
  cases o with
  | submit vb who raw hOk cp =>
    exact kept_of_ok h fun hc s' hr => submitExec_inv s s' who raw hOk cp h (Bool.and_eq_true_iff.mp hc).2 hr
  | deposit vb id who raw cp =>
    exact kept_of_ok h fun hc s' hr => addDeposit_inv s s' id who raw cp h (Bool.and_eq_true_iff.mp hc).2 hr
  | advance n => exact ⟨_, rfl, h⟩
  | endBlock ext => exact endBlock_spec ext ho s h

/-- **gov_endblock_no_panic**: for every history of submit / deposit messages (any coin lists: only what `ValidateBasic`
accepts is executed — including EMPTY deposits), time advances and EndBlockers (any tally verdicts, any non-panicking
handler outcomes), from any state with the deposit invariant (the empty gov state is `gov_endblock_no_panic_from_genesis`),
every step returns — no EndBlocker panics on its deposit paths — and the invariant holds again: every proposal life-cycle
state reachable from validated messages is covered. -/
theorem gov_endblock_no_panic (ops : List Op) (ho : ∀ o ∈ ops, handlersFine o) :
    ∀ s, Inv s → ∃ s', run s ops = .ok s' ∧ Inv s' := by
  induction ops with
  | nil => intro s h; exact ⟨s, rfl, h⟩
  | cons o rest ih =>
    intro s h
    obtain ⟨ho, hrest⟩ := List.forall_mem_cons.mp ho
    obtain ⟨s1, h1, hi⟩ := step_spec s o h ho
    obtain ⟨s2, h2, hi2⟩ := ih hrest s1 hi
    exact ⟨s2, by simp only [run, h1]; exact h2, hi2⟩

theorem gov_endblock_no_panic_from_genesis (ops : List Op) (ho : ∀ o ∈ ops, handlersFine o) :
    (run {} ops).isPanic = false := by
  obtain ⟨s', h, _⟩ := gov_endblock_no_panic ops ho {} inv_init
  rw [h]; rfl

/-! ### why the adapter must accept the empty set; staking burns -/

/-- the adapter with a MsgSend-style `IsAllPositive` check (seeded change C15-7): errors on the empty set. -/
def burnRedirectStrict (bal : Denom → Int) (cs : Coins) : Option (Denom → Int) :=
  if cs.isEmpty || !coinsOkB cs then none else sendFrom bal cs

theorem strict_adapter_rejects_empty (bal : Denom → Int) : burnRedirectStrict bal [] = none := rfl

/-- a proposal submitted WITHOUT initial deposit records an empty deposit (reachable, validated state). -/
example : (match submitExec {} "a" [] true true with
           | .ok s => s.deps.map (fun x => (x.pid, x.who, x.amount)) | _ => []) = [(1, "a", [])] := by decide +kernel

/-- staking `burnBondedTokens` / `burnNotBondedTokens` through the adapter: no `panic(err)` when the pool covers the amount
(zero / negative amounts are skipped before the adapter is called). -/
theorem staking_burn_no_panic (pool amt : Int) (h : amt ≤ pool) : (stakingBurn pool amt).isPanic = false := by
  unfold stakingBurn
  by_cases hpos : amt ≤ 0
  · rw [if_pos hpos]; rfl
  · have hok : CoinsOk [("stake", amt)] :=
      coinsOk_cons (by decide +kernel) (Int.not_le.mp hpos) coinsOk_nil fun _ hc => nomatch hc
    have hs := sendFrom_some (fun _ => pool) [("stake", amt)] hok fun d => by
      rw [amountOf_cons, amountOf, Int.add_zero]
      by_cases hd : "stake" = d
      · rw [if_pos hd]; exact h
      · rw [if_neg hd]; exact Int.le_trans (Int.le_of_lt (Int.not_le.mp hpos)) h
    rw [if_neg hpos, burnRedirect, hs]; rfl

theorem slash_no_panic (b n bb bn : Int) (h1 : bb ≤ b) (h2 : bn ≤ n) : (slash b n bb bn).isPanic = false := by
  have p1 := staking_burn_no_panic b bb h1
  have p2 := staking_burn_no_panic n bn h2
  unfold slash
  generalize stakingBurn b bb = r1 at p1 ⊢
  generalize stakingBurn n bn = r2 at p2 ⊢
  cases r1 with
  | ok x =>
    cases r2 with
    | panic m => cases p2
    | _ => rfl
  | err e => rfl
  | panic m => cases p1

end TM.GovCycle
