import TeleportModel.Model.Genesis
import TeleportModel.Proofs.C13Base
/-
C13 — genesis export / import round trip (DESIGN.md 5/C13) for the stores whose keys belong to the module's key families
(`ModuleKeys`), and the validation of the export.

Every exported collection is first characterised by the store entries it comes from; the round trip and the validation then
go through the key families one by one. The keeper writes of the model preserve `ModuleKeys` (`moduleKeys_*`: for every
height, sequence, name without '/').
-/
namespace TM.Genesis
open TM TM.GKv

theorem mem_insertByName {α : Type} (e x : Bytes × α) (l : List (Bytes × α)) :
    x ∈ insertByName e l ↔ x = e ∨ x ∈ l := by
  induction l with
  | nil => simp [insertByName]
  | cons y r ih =>
    simp only [insertByName]
    split
    · simp
    · simp only [List.mem_cons, ih, or_left_comm]

theorem mem_sortByName {α : Type} (x : Bytes × α) (l : List (Bytes × α)) : x ∈ sortByName l ↔ x ∈ l := by
  induction l with
  | nil => simp [sortByName]
  | cons y r ih =>
    have : sortByName (y :: r) = insertByName y (sortByName r) := rfl
    rw [this, mem_insertByName, ih]
    simp only [List.mem_cons]

theorem mem_groupAdd {α : Type} (acc : List (Bytes × List α)) (e : Bytes × α) (c : Bytes) (x : α) :
    (∃ l, (c, l) ∈ groupAdd acc e ∧ x ∈ l) ↔ ((∃ l, (c, l) ∈ acc ∧ x ∈ l) ∨ (c, x) = e) := by
  obtain ⟨e1, e2⟩ := e
  induction acc with
  | nil => simp [groupAdd, and_assoc]
  | cons a r ih =>
    obtain ⟨c0, l0⟩ := a
    rw [groupAdd]
    by_cases hc : c0 = e1
    · subst hc
      simp only [if_pos, List.mem_cons, Prod.mk.injEq, or_and_right, exists_or, and_assoc, exists_and_left, exists_eq_left,
        List.mem_append, List.not_mem_nil, or_false, and_or_left]
      exact or_right_comm
    · simp only [if_neg hc, List.mem_cons, or_and_right, exists_or, ih, or_assoc]

theorem mem_groupFold {α : Type} (L : List (Bytes × α)) (acc : List (Bytes × List α)) (c : Bytes) (x : α) :
    (∃ l, (c, l) ∈ L.foldl groupAdd acc ∧ x ∈ l) ↔ ((∃ l, (c, l) ∈ acc ∧ x ∈ l) ∨ (c, x) ∈ L) := by
  induction L generalizing acc with
  | nil => simp
  | cons e L ih => simp only [List.foldl_cons, ih, mem_groupAdd, List.mem_cons, or_assoc]

theorem mem_groupByName {α : Type} (L : List (Bytes × α)) (c : Bytes) (x : α) :
    (∃ l, (c, l) ∈ groupByName L ∧ x ∈ l) ↔ (c, x) ∈ L := by
  unfold groupByName
  rw [mem_groupFold]
  simp

theorem groupAdd_ne_nil {α : Type} {acc : List (Bytes × List α)} (h : ∀ g ∈ acc, g.2 ≠ []) (e : Bytes × α) :
    ∀ g ∈ groupAdd acc e, g.2 ≠ [] := by
  induction acc with
  | nil => intro g hg; simp [groupAdd] at hg; subst hg; simp
  | cons a r ih =>
    intro g hg
    simp only [groupAdd] at hg
    split at hg
    · rcases List.mem_cons.mp hg with rfl | hg'
      · simp
      · exact h g (List.mem_cons_of_mem _ hg')
    · rcases List.mem_cons.mp hg with rfl | hg'
      · exact h _ (List.mem_cons_self ..)
      · exact ih (fun g hg => h g (List.mem_cons_of_mem _ hg)) g hg'

/-- a group is opened by its first element -/
theorem groupByName_ne_nil {α : Type} (L : List (Bytes × α)) : ∀ g ∈ groupByName L, g.2 ≠ [] :=
  List.foldlRecOn (motive := fun acc : List (Bytes × List α) => ∀ g ∈ acc, g.2 ≠ []) L groupAdd (fun _ h => absurd h List.not_mem_nil)
    (fun _ h e _ => groupAdd_ne_nil h e)

theorem lookup_of_unique {α : Type} {l : List (Bytes × α)} {c : Bytes} {x : α} (hm : (c, x) ∈ l)
    (hu : ∀ y, (c, y) ∈ l → y = x) : l.lookup c = some x := by
  induction l with
  | nil => cases hm
  | cons a r ih =>
    obtain ⟨c0, x0⟩ := a
    by_cases e : c = c0
    · subst e
      rw [hu x0 (List.mem_cons_self ..)]
      exact List.lookup_cons_self
    · rw [List.lookup_cons, beq_false_of_ne e]
      apply ih
      · exact (List.mem_cons.mp hm).resolve_left fun h => e (Prod.mk.inj h).1
      · exact fun y hy => hu y (List.mem_cons_of_mem _ hy)

theorem clientKey_eq (chain path : Bytes) : clientKey chain path = kClientsSlash ++ (chain ++ slash :: path) := by
  simp [clientKey, clientPrefix]

theorem splitClientKey_some {k chain path : Bytes} (h : splitClientKey k = some (chain, path)) :
    k = clientKey chain path ∧ slash ∉ chain ∧ kClientsSlash.isPrefixOf k = true := by
  unfold splitClientKey at h
  cases hp : kClientsSlash.isPrefixOf k with
  | false => simp [hp] at h
  | true =>
    rw [hp, if_pos rfl] at h
    obtain ⟨e, hn⟩ := breakAt_some h
    refine ⟨?_, hn, rfl⟩
    rw [clientKey_eq, ← e]
    exact (isPrefixOf_drop hp).symm

theorem splitClientKey_none {k : Bytes} (h : kClientsSlash.isPrefixOf k = false) : splitClientKey k = none := by
  simp [splitClientKey, h]

theorem splitClientKey_clientKey {chain : Bytes} (h : slash ∉ chain) (path : Bytes) :
    splitClientKey (clientKey chain path) = some (chain, path) := by
  unfold splitClientKey
  rw [clientKey_eq, isPrefixOf_append]
  simp only [if_true, List.drop_left]
  exact breakAt_append h path

theorem clientsSlash_prefix_clientKey (chain path : Bytes) : kClientsSlash.isPrefixOf (clientKey chain path) = true := by
  rw [clientKey_eq]; exact isPrefixOf_append _ _

theorem clients_prefix_of_split {k : Bytes} (h : kClientsSlash.isPrefixOf k = true) : kClients.isPrefixOf k = true :=
  isPrefixOf_trans (by decide) h

theorem clients_prefix_clientKey (chain path : Bytes) : kClients.isPrefixOf (clientKey chain path) = true :=
  clients_prefix_of_split (clientsSlash_prefix_clientKey chain path)

theorem clientKey_ne_chainName (c p : Bytes) : clientKey c p ≠ kChainName :=
  ne_of_isPrefixOf _ (clients_prefix_clientKey c p) (by decide)

theorem clientKey_inj {c c' p p' : Bytes} (hc : slash ∉ c) (hc' : slash ∉ c') (h : clientKey c p = clientKey c' p') :
    c = c' ∧ p = p' := by
  have h1 := splitClientKey_clientKey hc p
  rw [h, splitClientKey_clientKey hc' p'] at h1
  cases h1
  exact ⟨rfl, rfl⟩

theorem consPath_length (h : Height) : (consPath h).length = 32 := rfl

theorem consHeight?_some {path : Bytes} {h : Height} (hh : consHeight? path = some h) : path = consPath h := by
  unfold consHeight? at hh
  split at hh
  · next hc =>
    obtain ⟨hl, hp⟩ := hc
    cases hh
    have e : kConsPrefix ++ path.drop 16 = path := isPrefixOf_drop hp
    have h1 : be64 (u64OfBE ((path.drop 16).take 8)) = (path.drop 16).take 8 := be64_u64OfBE _ (by simp [hl])
    have h2 : be64 (u64OfBE (path.drop 24)) = path.drop 24 := be64_u64OfBE _ (by simp [hl])
    have h3 : path.drop 24 = (path.drop 16).drop 8 := by simp
    rw [consPath, h1, h2, h3, List.take_append_drop, e]
  · cases hh

theorem consHeight?_consPath (h : Height) : consHeight? (consPath h) = some h := by
  unfold consHeight?
  have hp : kConsPrefix.isPrefixOf (consPath h) = true := isPrefixOf_append _ _
  simp only [consPath_length, hp, and_self, if_true]
  have d16 : (consPath h).drop 16 = be64 h.1 ++ be64 h.2 := List.drop_left (l₁ := kConsPrefix)
  have t8 : ((consPath h).drop 16).take 8 = be64 h.1 := by rw [d16]; exact List.take_left (l₁ := be64 h.1)
  have d24 : (consPath h).drop 24 = be64 h.2 := by
    rw [show 24 = 16 + 8 from rfl, ← List.drop_drop, d16]; exact List.drop_left (l₁ := be64 h.1)
  rw [t8, d24, u64OfBE_be64, u64OfBE_be64]

theorem consHeight?_eq_none {pre p : Bytes} (hp : pre.isPrefixOf p = true) (h1 : pre.isPrefixOf kConsPrefix = false)
    (h2 : kConsPrefix.isPrefixOf pre = false) : consHeight? p = none := by
  simp [consHeight?, isPrefixOf_eq_false _ hp h1 h2]

theorem mem_clientStore (s : Store) (chain k v : Bytes) :
    (k, v) ∈ clientStore s chain ↔ (clientKey chain k, v) ∈ s := by
  unfold clientStore
  simp only [List.mem_map, mem_iter]
  constructor
  · rintro ⟨⟨k0, v0⟩, ⟨hm, hp⟩, ⟨rfl, rfl⟩⟩
    rw [clientKey, isPrefixOf_drop hp]
    exact hm
  · intro hm
    exact ⟨(clientKey chain k, v), ⟨hm, isPrefixOf_append _ _⟩, by simp [clientKey]⟩

theorem mem_exportMeta {ty : Ty} {cs : Store} {e : Bytes × Bytes} :
    e ∈ exportMeta ty cs ↔ e ∈ cs ∧ metaPath ty e.1 = true := by
  cases ty <;> simp only [exportMeta, metaPath, List.mem_append, List.mem_filter, mem_iter, List.not_mem_nil,
    Bool.or_eq_true, Bool.and_eq_true, ← and_or_left, and_assoc, Bool.false_eq_true, and_false]

theorem metaPath_special {ty : Ty} {p : Bytes} (h : metaPath ty p = true) : p ≠ kClientState ∧ consHeight? p = none := by
  refine ⟨?_, ?_⟩
  · rintro rfl
    cases ty <;> exact absurd h (by decide)
  · cases ty <;> simp only [metaPath, Bool.or_eq_true, Bool.and_eq_true, Bool.false_eq_true] at h
    · rcases h with ⟨⟨_, hl⟩, _⟩ | h
      · simp only [consHeight?]
        rw [if_neg]
        intro hc; simp [hc.1] at hl
      · exact consHeight?_eq_none h (by decide) (by decide)
    · rcases h with h | h <;> exact consHeight?_eq_none h (by decide) (by decide)
    · rcases h with h | h <;> exact consHeight?_eq_none h (by decide) (by decide)

theorem hashKeyOk_spec {pfx k : Bytes} (h : hashKeyOk pfx k = true) :
    ∃ a b n, splitOn slash k = [pfx, a, b, kSequences, toDec n] ∧ parseDec (toDec n) = some n := by
  unfold hashKeyOk at h
  split at h
  · next p a b sq d heq =>
    simp only [Bool.and_eq_true, beq_iff_eq] at h
    obtain ⟨⟨rfl, rfl⟩, h3⟩ := h
    split at h3
    · next n hn =>
      rw [beq_iff_eq] at h3
      subst h3
      exact ⟨a, b, n, heq, hn⟩
    · cases h3
  · cases h

theorem parseHashKey_of_split {k pfx a b : Bytes} {n : Nat}
    (hs : splitOn slash k = [pfx, a, b, kSequences, toDec n]) (hp : parseDec (toDec n) = some n) :
    parseHashKey k = some (a, b, n) := by
  unfold parseHashKey
  rw [hs]
  simp [hp]

theorem packetKey_of_split {k pfx a b : Bytes} {n : Nat}
    (hs : splitOn slash k = [pfx, a, b, kSequences, toDec n]) : packetKey pfx a b n = k := by
  unfold packetKey
  rw [← hs, joinSlash_splitOn]

theorem packetKey_prefix (pfx src dst : Bytes) (n : Nat) : pfx.isPrefixOf (packetKey pfx src dst n) = true :=
  isPrefixOf_append _ _

theorem packetKey_split {pfx src dst : Bytes} (n : Nat) (hp : slash ∉ pfx) (hs : slash ∉ src) (hd : slash ∉ dst) :
    splitOn slash (packetKey pfx src dst n) = [pfx, src, dst, kSequences, toDec n] := by
  have hq : slash ∉ kSequences := by decide
  unfold packetKey
  simp only [joinSlash]
  rw [splitOn_append hp, splitOn_append hs, splitOn_append hd, splitOn_append hq, splitOn_noSep (toDec_noSlash n)]

theorem seqKeyOk_spec {k : Bytes} (h : seqKeyOk k = true) : ∃ a b, splitOn slash k = [kNextSeq, a, b] := by
  unfold seqKeyOk at h
  split at h
  · next p a b heq =>
    rw [beq_iff_eq] at h
    subst h
    exact ⟨a, b, heq⟩
  · cases h

theorem parsePath_of_split {k a b : Bytes} (hs : splitOn slash k = [kNextSeq, a, b]) : parsePath k = some (a, b) := by
  unfold parsePath; rw [hs]

theorem nextSeqKey_of_split {k a b : Bytes} (hs : splitOn slash k = [kNextSeq, a, b]) : nextSeqKey a b = k := by
  unfold nextSeqKey; rw [← hs, joinSlash_splitOn]

theorem nextSeqKey_prefix (src dst : Bytes) : kNextSeq.isPrefixOf (nextSeqKey src dst) = true :=
  isPrefixOf_append _ _

theorem nextSeqKey_split {src dst : Bytes} (hs : slash ∉ src) (hd : slash ∉ dst) :
    splitOn slash (nextSeqKey src dst) = [kNextSeq, src, dst] := by
  have hq : slash ∉ kNextSeq := by decide
  unfold nextSeqKey
  simp only [joinSlash]
  rw [splitOn_append hq, splitOn_append hs, splitOn_noSep hd]

/-- the sequence iteration stops at the first key that does not parse; where all parse it is a `filterMap` like the others -/
theorem iterateSeqs_eq {l : Store} (hall : ∀ kv ∈ l, (parsePath kv.1).isSome = true) :
    iterateSeqs l = l.filterMap fun kv => (parsePath kv.1).map fun ab => (ab.1, ab.2, u64OfBE (kv.2.take 8)) := by
  induction l with
  | nil => rfl
  | cons kv r ih =>
    have ih := ih (fun x hx => hall x (List.mem_cons_of_mem _ hx))
    cases hp : parsePath kv.1 with
    | none => have := hall kv (List.mem_cons_self ..); rw [hp] at this; cases this
    | some ab =>
      obtain ⟨a, b⟩ := ab
      rw [iterateSeqs, List.filterMap_cons]
      simp only [hp, Option.map_some, ih]

theorem mem_iterateSeqs {l : Store} (hall : ∀ kv ∈ l, (parsePath kv.1).isSome = true) {e : Bytes × Bytes × UInt64} :
    e ∈ iterateSeqs l ↔ ∃ kv ∈ l, ∃ a b, parsePath kv.1 = some (a, b) ∧ (a, b, u64OfBE (kv.2.take 8)) = e := by
  simp only [iterateSeqs_eq hall, List.mem_filterMap, Option.map_eq_some_iff, Prod.exists]

theorem bind_clientTy_some {o : Option Bytes} {ty : Ty} (h : o.bind clientTy = some ty) :
    ∃ cv, o = some cv ∧ clientTy cv = some ty :=
  Option.bind_eq_some_iff.mp h

theorem xKeyOk_cases {s : Store} {k v : Bytes} (h : xKeyOk s k v = true) :
    k = kChainName ∨
    (kRelayers.isPrefixOf k = true ∧ k = relayerKey (relayerAddr v)) ∨
    (∃ chain path, splitClientKey k = some (chain, path) ∧
       ((path = kClientState ∧ (clientTy v).isSome = true) ∨
        ((consHeight? path).isSome = true ∧ (consTy v).isSome = true) ∨
        (∃ cv ty, get s (clientKey chain kClientState) = some cv ∧ clientTy cv = some ty ∧ metaPath ty path = true))) ∨
    (kAcks.isPrefixOf k = true ∧ hashKeyOk kAcks k = true) ∨
    (kCommitments.isPrefixOf k = true ∧ hashKeyOk kCommitments k = true) ∨
    (kReceipts.isPrefixOf k = true ∧ hashKeyOk kReceipts k = true ∧ v = [1]) ∨
    (kNextSeq.isPrefixOf k = true ∧ seqKeyOk k = true ∧ v.length = 8) := by
  unfold xKeyOk at h
  by_cases h0 : k = kChainName
  · exact .inl h0
  right
  rw [if_neg h0] at h
  by_cases h1 : kRelayers.isPrefixOf k = true
  · rw [if_pos h1] at h; exact .inl ⟨h1, beq_iff_eq.mp h⟩
  right
  rw [if_neg h1] at h
  by_cases h2 : kClients.isPrefixOf k = true
  · rw [if_pos h2] at h
    left
    cases hsp : splitClientKey k with
    | none => simp only [hsp] at h; cases h
    | some cp =>
      obtain ⟨chain, path⟩ := cp
      simp only [hsp] at h
      refine ⟨chain, path, rfl, ?_⟩
      by_cases e : path = kClientState
      · exact .inl ⟨e, by rwa [if_pos e] at h⟩
      by_cases hc : (consHeight? path).isSome = true
      · exact .inr (.inl ⟨hc, by rwa [if_neg e, if_pos hc] at h⟩)
      simp only [if_neg e, if_neg hc] at h
      cases hb : (get s (clientKey chain kClientState)).bind clientTy with
      | none => simp only [hb] at h; cases h
      | some ty =>
        simp only [hb] at h
        obtain ⟨cv, hg, hty⟩ := bind_clientTy_some hb
        exact .inr (.inr ⟨cv, ty, hg, hty, h⟩)
  right
  rw [if_neg h2] at h
  by_cases h3 : kAcks.isPrefixOf k = true
  · rw [if_pos h3] at h; exact .inl ⟨h3, h⟩
  right
  rw [if_neg h3] at h
  by_cases h4 : kCommitments.isPrefixOf k = true
  · rw [if_pos h4] at h; exact .inl ⟨h4, h⟩
  right
  rw [if_neg h4] at h
  by_cases h5 : kReceipts.isPrefixOf k = true
  · rw [if_pos h5, Bool.and_eq_true, beq_iff_eq] at h
    exact .inl ⟨h5, h⟩
  right
  rw [if_neg h5] at h
  by_cases h6 : kNextSeq.isPrefixOf k = true
  · rw [if_pos h6, Bool.and_eq_true, beq_iff_eq] at h
    exact ⟨h6, h⟩
  rw [if_neg h6] at h
  cases h

theorem chainName_prefix_false : kRelayers.isPrefixOf kChainName = false ∧ kClientsSlash.isPrefixOf kChainName = false
    ∧ kAcks.isPrefixOf kChainName = false ∧ kCommitments.isPrefixOf kChainName = false
    ∧ kReceipts.isPrefixOf kChainName = false ∧ kNextSeq.isPrefixOf kChainName = false := by decide

/-! `xKeyOk` on a key of known family: the guards of the families before it fail because the prefixes are incomparable. -/

theorem xKeyOk_relayers {s : Store} {k v : Bytes} (hp : kRelayers.isPrefixOf k = true) :
    xKeyOk s k v = (k == relayerKey (relayerAddr v)) := by
  simp only [xKeyOk, ne_of_isPrefixOf kChainName hp (by decide), if_false, hp, if_true]

theorem xKeyOk_clientKey {s : Store} {chain path v : Bytes} (hc : slash ∉ chain) :
    xKeyOk s (clientKey chain path) v =
      (if path = kClientState then (clientTy v).isSome
       else if (consHeight? path).isSome then (consTy v).isSome
       else match tyOfChain s chain with
         | none => false
         | some ty => metaPath ty path) := by
  have hp := clients_prefix_clientKey chain path
  simp only [xKeyOk, clientKey_ne_chainName, if_false, isPrefixOf_eq_false kRelayers hp (by decide) (by decide),
    Bool.false_eq_true, hp, if_true, splitClientKey_clientKey hc]
  rfl

theorem xKeyOk_acks {s : Store} {k v : Bytes} (hp : kAcks.isPrefixOf k = true) : xKeyOk s k v = hashKeyOk kAcks k := by
  simp only [xKeyOk, ne_of_isPrefixOf kChainName hp (by decide), if_false, Bool.false_eq_true, hp, if_true,
    isPrefixOf_eq_false kRelayers hp (by decide) (by decide), isPrefixOf_eq_false kClients hp (by decide) (by decide)]

theorem xKeyOk_commitments {s : Store} {k v : Bytes} (hp : kCommitments.isPrefixOf k = true) :
    xKeyOk s k v = hashKeyOk kCommitments k := by
  simp only [xKeyOk, ne_of_isPrefixOf kChainName hp (by decide), if_false, Bool.false_eq_true, hp, if_true,
    isPrefixOf_eq_false kRelayers hp (by decide) (by decide), isPrefixOf_eq_false kClients hp (by decide) (by decide),
    isPrefixOf_eq_false kAcks hp (by decide) (by decide)]

theorem xKeyOk_receipts {s : Store} {k v : Bytes} (hp : kReceipts.isPrefixOf k = true) :
    xKeyOk s k v = (hashKeyOk kReceipts k && v == [1]) := by
  simp only [xKeyOk, ne_of_isPrefixOf kChainName hp (by decide), if_false, Bool.false_eq_true, hp, if_true,
    isPrefixOf_eq_false kRelayers hp (by decide) (by decide), isPrefixOf_eq_false kClients hp (by decide) (by decide),
    isPrefixOf_eq_false kAcks hp (by decide) (by decide), isPrefixOf_eq_false kCommitments hp (by decide) (by decide)]

theorem xKeyOk_nextSeq {s : Store} {k v : Bytes} (hp : kNextSeq.isPrefixOf k = true) :
    xKeyOk s k v = (seqKeyOk k && v.length == 8) := by
  simp only [xKeyOk, ne_of_isPrefixOf kChainName hp (by decide), if_false, Bool.false_eq_true, hp, if_true,
    isPrefixOf_eq_false kRelayers hp (by decide) (by decide), isPrefixOf_eq_false kClients hp (by decide) (by decide),
    isPrefixOf_eq_false kAcks hp (by decide) (by decide), isPrefixOf_eq_false kCommitments hp (by decide) (by decide),
    isPrefixOf_eq_false kReceipts hp (by decide) (by decide)]

theorem hashKey_of_prefix {s : Store} {k v pfx : Bytes} (h : xKeyOk s k v = true) (hp : pfx.isPrefixOf k = true)
    (hpfx : pfx = kAcks ∨ pfx = kCommitments ∨ pfx = kReceipts) :
    hashKeyOk pfx k = true ∧ (pfx = kReceipts → v = [1]) := by
  rcases hpfx with rfl | rfl | rfl
  · rw [xKeyOk_acks hp] at h; exact ⟨h, fun e => absurd e (by decide)⟩
  · rw [xKeyOk_commitments hp] at h; exact ⟨h, fun e => absurd e (by decide)⟩
  · rw [xKeyOk_receipts hp, Bool.and_eq_true, beq_iff_eq] at h; exact ⟨h.1, fun _ => h.2⟩

theorem seqKey_of_prefix {s : Store} {k v : Bytes} (h : xKeyOk s k v = true) (hp : kNextSeq.isPrefixOf k = true) :
    seqKeyOk k = true ∧ v.length = 8 := by
  rwa [xKeyOk_nextSeq hp, Bool.and_eq_true, beq_iff_eq] at h

theorem moduleKeys_iff (s : Store) :
    ModuleKeys s ↔ (Sorted s ∧ (get s kChainName).isSome = true ∧ ∀ kv ∈ s, xKeyOk s kv.1 kv.2 = true) := by
  unfold ModuleKeys moduleKeysB
  simp only [Bool.and_eq_true, sortedB_iff, List.all_eq_true, and_assoc]

theorem sorted_of_moduleKeys {s : Store} (h : ModuleKeys s) : Sorted s := ((moduleKeys_iff s).mp h).1

theorem mem_iterateClients {s : Store} {chain blob : Bytes} :
    (chain, blob) ∈ iterateClients s ↔ ∃ kv ∈ s, splitClientKey kv.1 = some (chain, kClientState) ∧ kv.2 = blob := by
  unfold iterateClients
  simp only [List.mem_filterMap, mem_iter]
  constructor
  · rintro ⟨kv, ⟨hm, _⟩, h⟩
    split at h
    · next c p hsp =>
      split at h
      · next e => subst e; cases h; exact ⟨kv, hm, hsp, rfl⟩
      · cases h
    · cases h
  · rintro ⟨kv, hm, hsp, e⟩
    refine ⟨kv, ⟨hm, clients_prefix_of_split (splitClientKey_some hsp).2.2⟩, ?_⟩
    rw [hsp]; simp [e]

theorem mem_iterateCons {s : Store} {chain blob : Bytes} {h : Height} :
    (chain, h, blob) ∈ iterateCons s ↔ ∃ kv ∈ s, ∃ path, splitClientKey kv.1 = some (chain, path) ∧ consHeight? path = some h ∧ kv.2 = blob := by
  unfold iterateCons
  simp only [List.mem_filterMap, mem_iter]
  constructor
  · rintro ⟨kv, ⟨hm, _⟩, hh⟩
    split at hh
    · next c p hsp =>
      split at hh
      · next h' hc => cases hh; exact ⟨kv, hm, p, hsp, hc, rfl⟩
      · cases hh
    · cases hh
  · rintro ⟨kv, hm, path, hsp, hc, e⟩
    refine ⟨kv, ⟨hm, clients_prefix_of_split (splitClientKey_some hsp).2.2⟩, ?_⟩
    rw [hsp]; simp [hc, e]

theorem mem_iterateHashes {s : Store} {pfx a b v : Bytes} {n : Nat} :
    (a, b, n, v) ∈ iterateHashes s pfx ↔ ∃ kv ∈ s, pfx.isPrefixOf kv.1 = true ∧ parseHashKey kv.1 = some (a, b, n) ∧ kv.2 = v := by
  unfold iterateHashes
  simp only [List.mem_filterMap, mem_iter]
  constructor
  · rintro ⟨kv, ⟨hm, hp⟩, hh⟩
    split at hh
    · next a' b' n' hk => cases hh; exact ⟨kv, hm, hp, hk, rfl⟩
    · cases hh
  · rintro ⟨kv, hm, hp, hk, e⟩
    exact ⟨kv, ⟨hm, hp⟩, by rw [hk]; simp [e]⟩

theorem mem_exportClients {s : Store} {chain cv : Bytes} :
    (chain, cv) ∈ exportClients s ↔ ((clientKey chain kClientState, cv) ∈ s ∧ slash ∉ chain) := by
  rw [exportClients, mem_sortByName, mem_iterateClients]
  constructor
  · rintro ⟨⟨k0, v0⟩, hm, hsp, rfl⟩
    obtain ⟨rfl, hn, _⟩ := splitClientKey_some hsp
    exact ⟨hm, hn⟩
  · rintro ⟨hm, hn⟩
    exact ⟨_, hm, splitClientKey_clientKey hn _, rfl⟩

theorem lookup_exportClients {s : Store} (hS : Sorted s) {chain cv : Bytes} (h : (chain, cv) ∈ exportClients s) :
    (exportClients s).lookup chain = some cv :=
  lookup_of_unique h (fun y hy => mem_unique hS (mem_exportClients.mp hy).1 (mem_exportClients.mp h).1)

theorem mem_exportCons {s : Store} {chain blob : Bytes} {h : Height} :
    (∃ l, (chain, l) ∈ exportCons s ∧ (h, blob) ∈ l) ↔ ((clientKey chain (consPath h), blob) ∈ s ∧ slash ∉ chain) := by
  simp only [exportCons, mem_sortByName, mem_groupByName, mem_iterateCons]
  constructor
  · rintro ⟨⟨k0, v0⟩, hm, path, hsp, hc, rfl⟩
    obtain ⟨rfl, hn, _⟩ := splitClientKey_some hsp
    rw [← consHeight?_some hc]
    exact ⟨hm, hn⟩
  · rintro ⟨hm, hn⟩
    exact ⟨_, hm, _, splitClientKey_clientKey hn _, consHeight?_consPath h, rfl⟩

theorem mem_exportMetadata {s : Store} {cm : Bytes × List (Bytes × Bytes)} :
    cm ∈ exportMetadata s ↔ ∃ cv ty, (cm.1, cv) ∈ exportClients s ∧ clientTy cv = some ty ∧
      cm.2 = exportMeta ty (clientStore s cm.1) ∧ cm.2 ≠ [] := by
  obtain ⟨chain, gms⟩ := cm
  simp only [exportMetadata, List.mem_filterMap]
  constructor
  · rintro ⟨⟨c, cv⟩, hcb, h⟩
    cases hty : clientTy cv with
    | none => simp [hty] at h
    | some ty =>
      simp only [hty] at h
      cases hg : exportMeta ty (clientStore s c) with
      | nil => simp [hg] at h
      | cons x r =>
        simp only [hg, List.isEmpty_cons, Bool.false_eq_true, if_false, Option.some.injEq, Prod.mk.injEq] at h
        obtain ⟨rfl, rfl⟩ := h
        exact ⟨cv, ty, hcb, hty, hg.symm, by simp⟩
  · rintro ⟨cv, ty, hcb, hty, rfl, hne⟩
    refine ⟨(chain, cv), hcb, ?_⟩
    simp only [hty]
    cases hg : exportMeta ty (clientStore s chain) with
    | nil => exact absurd hg hne
    | cons x r => simp

theorem mem_exportRelayers {s : Store} {blob : Bytes} :
    blob ∈ exportRelayers s ↔ ∃ k, (k, blob) ∈ s ∧ kRelayers.isPrefixOf k = true := by
  simp only [exportRelayers, List.mem_map, mem_iter]
  constructor
  · rintro ⟨⟨k, v⟩, h, rfl⟩; exact ⟨k, h⟩
  · rintro ⟨k, h⟩; exact ⟨(k, blob), h, rfl⟩

theorem iterateHashes_entry {s : Store} (hK : ∀ kv ∈ s, xKeyOk s kv.1 kv.2 = true) {pfx a b v : Bytes} {n : Nat}
    (hpfx : pfx = kAcks ∨ pfx = kCommitments ∨ pfx = kReceipts) (he : (a, b, n, v) ∈ iterateHashes s pfx) :
    (packetKey pfx a b n, v) ∈ s ∧ (pfx = kReceipts → v = [1]) := by
  obtain ⟨⟨k0, v0⟩, hm, hp, hk, rfl⟩ := mem_iterateHashes.mp he
  obtain ⟨hok, hv⟩ := hashKey_of_prefix (hK _ hm) hp hpfx
  obtain ⟨a', b', n', hs, hd⟩ := hashKeyOk_spec hok
  have := parseHashKey_of_split hs hd
  rw [hk] at this; cases this
  rw [packetKey_of_split hs]
  exact ⟨hm, hv⟩

theorem iterateHashes_of_ok {s : Store} {k v pfx : Bytes} (hm : (k, v) ∈ s) (hk : hashKeyOk pfx k = true) :
    ∃ e ∈ iterateHashes s pfx, packetKey pfx e.1 e.2.1 e.2.2.1 = k ∧ e.2.2.2 = v := by
  obtain ⟨a, b, n, hs, hd⟩ := hashKeyOk_spec hk
  have hpk := packetKey_of_split hs
  exact ⟨(a, b, n, v), mem_iterateHashes.mpr ⟨(k, v), hm, hpk ▸ packetKey_prefix pfx a b n, parseHashKey_of_split hs hd, rfl⟩,
    hpk, rfl⟩

/-- under `nextSequenceSend` every key parses, so the sequence iteration never stops early -/
theorem seqs_all_parse {s : Store} (hK : ∀ kv ∈ s, xKeyOk s kv.1 kv.2 = true) :
    ∀ kv ∈ iter s kNextSeq, (parsePath kv.1).isSome = true := by
  intro kv hkv
  obtain ⟨hm, hp⟩ := (mem_iter s kNextSeq kv).mp hkv
  obtain ⟨a, b, hs⟩ := seqKeyOk_spec (seqKey_of_prefix (hK kv hm) hp).1
  rw [parsePath_of_split hs]; rfl

theorem iterateSeqs_entry {s : Store} (hK : ∀ kv ∈ s, xKeyOk s kv.1 kv.2 = true) {e : Bytes × Bytes × UInt64}
    (he : e ∈ iterateSeqs (iter s kNextSeq)) : (nextSeqKey e.1 e.2.1, be64 e.2.2) ∈ s := by
  obtain ⟨⟨k0, v0⟩, hm, a, b, hpp, rfl⟩ := (mem_iterateSeqs (seqs_all_parse hK)).mp he
  obtain ⟨hm, hp⟩ := (mem_iter s kNextSeq _).mp hm
  obtain ⟨hok, hl⟩ := seqKey_of_prefix (hK _ hm) hp
  obtain ⟨a', b', hs⟩ := seqKeyOk_spec hok
  have := parsePath_of_split hs
  rw [hpp] at this; cases this
  simp only at hl ⊢
  rw [List.take_of_length_le (Nat.le_of_eq hl), be64_u64OfBE v0 hl, nextSeqKey_of_split hs]; exact hm

theorem writes_sub {s : Store} (hmk : ModuleKeys s) : ∀ kv, kv ∈ xibcWrites (exportXibc s) → kv ∈ s := by
  obtain ⟨hS, hC, hK⟩ := (moduleKeys_iff s).mp hmk
  intro kv hkv
  simp only [xibcWrites, clientWrites, packetWrites, exportXibc, exportClientGen, exportPacketGen, List.mem_append,
    List.mem_flatMap, List.mem_map, List.mem_singleton] at hkv
  rcases hkv with ((((hm | hc) | hcons) | hrel) | hname) | (((hack | hcom) | hrec) | hseq)
  · obtain ⟨cm, hcm, ⟨ek, ev⟩, he, rfl⟩ := hm
    obtain ⟨cv, ty, _, _, hgms, _⟩ := mem_exportMetadata.mp hcm
    rw [hgms] at he
    exact (mem_clientStore s cm.1 ek ev).mp (mem_exportMeta.mp he).1
  · obtain ⟨⟨chain, blob⟩, hcb, rfl⟩ := hc
    exact (mem_exportClients.mp hcb).1
  · obtain ⟨⟨chain, l⟩, hcc, ⟨h, blob⟩, hhb, rfl⟩ := hcons
    exact (mem_exportCons.mp ⟨l, hcc, hhb⟩).1
  · obtain ⟨blob, hb, rfl⟩ := hrel
    obtain ⟨k0, hm, hp⟩ := mem_exportRelayers.mp hb
    have hk := hK _ hm
    rw [xKeyOk_relayers hp, beq_iff_eq] at hk
    rw [← hk]; exact hm
  · subst hname
    cases hg : get s kChainName with
    | none => rw [hg] at hC; simp at hC
    | some v => exact (mem_iff_get hS _ _).mpr hg
  · obtain ⟨⟨a, b, n, v⟩, he, rfl⟩ := hack
    exact (iterateHashes_entry hK (Or.inl rfl) he).1
  · obtain ⟨⟨a, b, n, v⟩, he, rfl⟩ := hcom
    exact (iterateHashes_entry hK (Or.inr (Or.inl rfl)) he).1
  · obtain ⟨⟨a, b, n, v⟩, he, rfl⟩ := hrec
    obtain ⟨hm, hv⟩ := iterateHashes_entry hK (Or.inr (Or.inr rfl)) he
    rw [← hv rfl]; exact hm
  · obtain ⟨e, he, rfl⟩ := hseq
    exact iterateSeqs_entry hK he

theorem sub_writes {s : Store} (hmk : ModuleKeys s) : ∀ kv, kv ∈ s → kv ∈ xibcWrites (exportXibc s) := by
  obtain ⟨hS, hC, hK⟩ := (moduleKeys_iff s).mp hmk
  intro kv hkv
  obtain ⟨k, v⟩ := kv
  have hok : xKeyOk s k v = true := hK (k, v) hkv
  simp only [xibcWrites, clientWrites, packetWrites, exportXibc, exportClientGen, exportPacketGen, List.mem_append,
    List.mem_flatMap, List.mem_map, List.mem_singleton]
  rcases xKeyOk_cases hok with e | ⟨hq, hk⟩ | ⟨chain, path, hsp, hcase⟩ | ⟨hq, hk⟩ | ⟨hq, hk⟩ | ⟨hq, hk, hv⟩ | ⟨hq, hk, hv⟩
  · -- chain name
    subst e
    left; right
    rw [(mem_iff_get hS _ _).mp hkv]; rfl
  · -- relayer
    left; left; right
    exact ⟨v, mem_exportRelayers.mpr ⟨k, hkv, hq⟩, by rw [← hk]⟩
  · obtain ⟨rfl, hns, _⟩ := splitClientKey_some hsp
    rcases hcase with ⟨rfl, _⟩ | ⟨hc, _⟩ | ⟨cv, ty, hg, hty, hmp⟩
    · -- client state
      left; left; left; left; right
      exact ⟨(chain, v), mem_exportClients.mpr ⟨hkv, hns⟩, rfl⟩
    · -- consensus state
      cases hh : consHeight? path with
      | none => rw [hh] at hc; cases hc
      | some h =>
        left; left; left; right
        rw [consHeight?_some hh] at hkv ⊢
        obtain ⟨l, hl, hx⟩ := mem_exportCons.mpr ⟨hkv, hns⟩
        exact ⟨(chain, l), hl, (h, v), hx, rfl⟩
    · -- client metadata
      left; left; left; left; left
      have hin : (path, v) ∈ exportMeta ty (clientStore s chain) :=
        mem_exportMeta.mpr ⟨(mem_clientStore s chain path v).mpr hkv, hmp⟩
      refine ⟨(chain, exportMeta ty (clientStore s chain)), ?_, (path, v), hin, rfl⟩
      exact mem_exportMetadata.mpr ⟨cv, ty, mem_exportClients.mpr ⟨(mem_iff_get hS _ _).mpr hg, hns⟩, hty, rfl,
        List.ne_nil_of_mem hin⟩
  · -- ack
    right; left; left; left
    obtain ⟨e, he, rfl, rfl⟩ := iterateHashes_of_ok hkv hk
    exact ⟨e, he, rfl⟩
  · -- commitment
    right; left; left; right
    obtain ⟨e, he, rfl, rfl⟩ := iterateHashes_of_ok hkv hk
    exact ⟨e, he, rfl⟩
  · -- receipt
    right; left; right
    obtain ⟨e, he, rfl, _⟩ := iterateHashes_of_ok hkv hk
    exact ⟨e, he, by rw [hv]⟩
  · -- send sequence
    right; right
    obtain ⟨a, b, hs⟩ := seqKeyOk_spec hk
    refine ⟨_, (mem_iterateSeqs (seqs_all_parse hK)).mpr
      ⟨(k, v), (mem_iter s kNextSeq _).mpr ⟨hkv, hq⟩, a, b, parsePath_of_split hs, rfl⟩, ?_⟩
    simp only
    rw [List.take_of_length_le (Nat.le_of_eq hv), be64_u64OfBE v hv, nextSeqKey_of_split hs]

/-- **C13 round trip.** For every store whose keys belong to the module's key families — any chain names without '/',
every 16-byte height / revision pattern (0x2f bytes included), any mix of client types, any packet state — exporting
and initialising a fresh store from the export reproduces the store exactly. -/
theorem roundtrip {s : Store} (h : ModuleKeys s) : initXibc (exportXibc s) = s :=
  setAll_nil_eq ((moduleKeys_iff s).mp h).1 _ (writes_sub h) (sub_writes h)

theorem export_idempotent {s : Store} (h : ModuleKeys s) : exportXibc (initXibc (exportXibc s)) = exportXibc s := by
  rw [roundtrip h]

/-- InitGenesis on top of a store that already holds the state (e.g. re-running it) changes nothing -/
theorem init_absorb {s : Store} (h : ModuleKeys s) : initXibcOn s (exportXibc s) = s :=
  setAll_absorb ((moduleKeys_iff s).mp h).1 _ (writes_sub h)

theorem wf_packet {env : Env} {s : Store} {pfx : Bytes} (hW : ∀ kv ∈ s, wfEntry env s kv.1 kv.2 = true)
    (hpfx : pfx = kAcks ∨ pfx = kCommitments ∨ pfx = kReceipts) {e : Bytes × Bytes × Nat × Bytes}
    (he : e ∈ iterateHashes s pfx) : validPacketState e = true := by
  obtain ⟨a, b, n, v⟩ := e
  obtain ⟨⟨k, v⟩, hm, hp, hk, rfl⟩ := mem_iterateHashes.mp he
  have hsp : splitClientKey k = none := splitClientKey_none
    (by rcases hpfx with rfl | rfl | rfl <;> exact isPrefixOf_eq_false _ hp (by decide) (by decide))
  have : (kAcks.isPrefixOf k || kCommitments.isPrefixOf k || kReceipts.isPrefixOf k) = true := by
    rcases hpfx with rfl | rfl | rfl <;> simp [hp]
  simpa only [wfEntry, hsp, this, if_true, hk] using hW _ hm

theorem wf_seq {env : Env} {s : Store} {k v a b : Bytes} (hw : wfEntry env s k v = true)
    (hp : kNextSeq.isPrefixOf k = true) (hk : parsePath k = some (a, b)) :
    (validId a = true ∧ validId b = true) ∧ (u64OfBE (v.take 8) != 0) = true := by
  simpa only [Bool.and_eq_true, wfEntry, splitClientKey_none (isPrefixOf_eq_false _ hp (by decide) (by decide)),
    isPrefixOf_eq_false kAcks hp (by decide) (by decide), isPrefixOf_eq_false kCommitments hp (by decide) (by decide),
    isPrefixOf_eq_false kReceipts hp (by decide) (by decide), Bool.or_false, Bool.false_eq_true, if_false, hp, if_true, hk]
    using hw

theorem consPath_ne_clientState (h : Height) : consPath h ≠ kClientState := by
  intro e
  have := consPath_length h
  rw [e] at this
  exact absurd this (by decide)

theorem wf_cons {env : Env} {s : Store} {chain blob : Bytes} {h : Height} (hn : slash ∉ chain)
    (hw : wfEntry env s (clientKey chain (consPath h)) blob = true) :
    ((!(h.1 == 0 && h.2 == 0)) = true ∧ env.validCons blob = true) ∧
      tyOfChain s chain = consTy blob ∧ (consTy blob).isSome = true := by
  simp only [wfEntry, splitClientKey_clientKey hn, consPath_ne_clientState, if_false, consHeight?_consPath,
    Bool.and_eq_true, beq_iff_eq] at hw
  exact ⟨hw.1.1, hw.1.2, hw.2⟩

/-- **the export of a well-formed module state passes the modules' own genesis validation** -/
theorem export_validates {env : Env} {s : Store} (hmk : ModuleKeys s) (hwf : WellFormed env s) :
    validateXibc env (exportXibc s) = true := by
  obtain ⟨hS, hC, hK⟩ := (moduleKeys_iff s).mp hmk
  unfold WellFormed wellFormedB at hwf
  simp only [Bool.and_eq_true, List.all_eq_true] at hwf
  obtain ⟨hW, hN⟩ := hwf
  simp only [validateXibc, validateClientGen, validatePacketGen, exportXibc, exportClientGen, exportPacketGen,
    Bool.and_eq_true, List.all_eq_true]
  refine ⟨⟨⟨⟨?_, ?_⟩, ?_⟩, hN⟩, ⟨⟨⟨?_, ?_⟩, ?_⟩, ?_⟩⟩
  · rintro ⟨chain, cv⟩ hcb
    obtain ⟨hm, hn⟩ := mem_exportClients.mp hcb
    have hw := hW _ hm
    have hk := hK _ hm
    simp only [wfEntry, splitClientKey_clientKey hn, if_true, Bool.and_eq_true] at hw
    rw [xKeyOk_clientKey hn, if_pos rfl] at hk
    exact ⟨⟨hw.1, hk⟩, hw.2⟩
  · -- consensus states: the group is not empty, its first entry names the chain's client type, every entry agrees with it
    rintro ⟨chain, l⟩ hcc
    have hwf : ∀ hb ∈ l, slash ∉ chain ∧ ((!(hb.1.1 == 0 && hb.1.2 == 0)) = true ∧ env.validCons hb.2 = true) ∧
        tyOfChain s chain = consTy hb.2 ∧ (consTy hb.2).isSome = true := by
      rintro ⟨h, blob⟩ hhb
      obtain ⟨hm, hn⟩ := mem_exportCons.mp ⟨l, hcc, hhb⟩
      exact ⟨hn, wf_cons hn (hW _ hm)⟩
    cases l with
    | nil =>
      rw [exportCons, mem_sortByName] at hcc
      exact absurd rfl (groupByName_ne_nil _ _ hcc)
    | cons hb0 l' =>
      obtain ⟨hn, _, hty0, hsome⟩ := hwf hb0 (List.mem_cons_self ..)
      cases hct : consTy hb0.2 with
      | none => rw [hct] at hsome; cases hsome
      | some ty =>
        rw [hct] at hty0
        obtain ⟨cv, hg, hcv⟩ := bind_clientTy_some hty0
        have hlk := lookup_exportClients hS (mem_exportClients.mpr ⟨(mem_iff_get hS _ _).mpr hg, hn⟩)
        simp only [hlk, Option.bind, hcv, List.all_eq_true, Bool.and_eq_true, beq_iff_eq]
        intro hb hhb
        obtain ⟨_, h1, h2, _⟩ := hwf hb hhb
        exact ⟨h1, by rw [← h2, hty0]⟩
  · intro cm hcm
    obtain ⟨cv, ty, hcb, hty, hgms, _⟩ := mem_exportMetadata.mp hcm
    have hn := (mem_exportClients.mp hcb).2
    simp only [lookup_exportClients hS hcb, Option.isSome, true_and]
    rintro ⟨ek, ev⟩ he
    rw [hgms] at he
    obtain ⟨hm, hmp⟩ := mem_exportMeta.mp he
    obtain ⟨hne, hnc⟩ := metaPath_special hmp
    have hw := hW _ ((mem_clientStore s cm.1 ek ev).mp hm)
    simp only [wfEntry, splitClientKey_clientKey hn, hne, if_false, hnc, Bool.and_eq_true] at hw
    exact ⟨hw.2, hw.1⟩
  · exact fun _ => wf_packet hW (Or.inl rfl)
  · exact fun _ => wf_packet hW (Or.inr (Or.inr rfl))
  · exact fun _ => wf_packet hW (Or.inr (Or.inl rfl))
  · intro e he
    obtain ⟨kv, hm, a, b, hpp, rfl⟩ := (mem_iterateSeqs (seqs_all_parse hK)).mp he
    obtain ⟨hm, hp⟩ := (mem_iter s kNextSeq kv).mp hm
    exact wf_seq (hW kv hm) hp hpp

theorem tyOfChain_set_other {s : Store} (hS : Sorted s) {k v chain : Bytes} (hne : k ≠ clientKey chain kClientState) :
    tyOfChain (set s k v) chain = tyOfChain s chain := by
  unfold tyOfChain; rw [get_set hS, if_neg hne]

/-- `xKeyOk` looks at the store only for the client type of the key's own chain -/
theorem xKeyOk_congr {s t : Store} {k v : Bytes}
    (h : ∀ c p ty, slash ∉ c → k = clientKey c p → tyOfChain s c = some ty → tyOfChain t c = some ty)
    (hk : xKeyOk s k v = true) : xKeyOk t k v = true := by
  rcases xKeyOk_cases hk with rfl | ⟨hq, hk⟩ | ⟨c, p, hsp, hcase⟩ | ⟨hq, hk⟩ | ⟨hq, hk⟩ | ⟨hq, hk, hv⟩ | ⟨hq, hk, hv⟩
  · rfl
  · rw [xKeyOk_relayers hq, beq_iff_eq]; exact hk
  · obtain ⟨rfl, hcs, _⟩ := splitClientKey_some hsp
    rw [xKeyOk_clientKey hcs]
    rcases hcase with ⟨e, hv⟩ | ⟨hc, hv⟩ | ⟨cv, ty, hg, hty, hmp⟩
    · rw [if_pos e]; exact hv
    · have e : p ≠ kClientState := fun e => by rw [e] at hc; exact absurd hc (by decide)
      rw [if_neg e, if_pos hc]; exact hv
    · obtain ⟨e, hnc⟩ := metaPath_special hmp
      have hty' : tyOfChain s c = some ty := by rw [tyOfChain, hg]; exact hty
      rw [if_neg e, hnc, h c p ty hcs rfl hty']
      exact hmp
  · rw [xKeyOk_acks hq]; exact hk
  · rw [xKeyOk_commitments hq]; exact hk
  · rw [xKeyOk_receipts hq, hk, hv]; rfl
  · rw [xKeyOk_nextSeq hq, hk, hv]; rfl

/-- the common shape of all preservation lemmas: a sorted store with the chain name whose entries are old ones or module
keys, and in which the chains of these entries kept their client type -/
theorem moduleKeys_of_sub {s t : Store} (h : ModuleKeys s) (hS : Sorted t) (hC : (get t kChainName).isSome = true)
    (hsub : ∀ kv ∈ t, kv ∈ s ∨ xKeyOk s kv.1 kv.2 = true)
    (hty : ∀ kv ∈ t, ∀ c p ty, slash ∉ c → kv.1 = clientKey c p → tyOfChain s c = some ty → tyOfChain t c = some ty) :
    ModuleKeys t := by
  obtain ⟨_, _, hK⟩ := (moduleKeys_iff s).mp h
  refine (moduleKeys_iff t).mpr ⟨hS, hC, fun kv hkv => xKeyOk_congr (hty kv hkv) ?_⟩
  rcases hsub kv hkv with hm | hk
  · exact hK kv hm
  · exact hk

/-- writing one more entry of a module key family (not a client state) keeps ModuleKeys -/
theorem moduleKeys_set {s : Store} (h : ModuleKeys s) {k v : Bytes}
    (hne : ∀ c, slash ∉ c → k ≠ clientKey c kClientState) (hk : xKeyOk s k v = true) : ModuleKeys (set s k v) := by
  obtain ⟨hS, hC, _⟩ := (moduleKeys_iff s).mp h
  refine moduleKeys_of_sub h (sorted_set hS k v) ?_ ?_ ?_
  · rw [get_set hS]; split
    · rfl
    · exact hC
  · intro kv hkv
    rcases mem_set_sub hkv with rfl | hm
    · exact Or.inr hk
    · exact Or.inl hm
  · intro _ _ c _ ty hcs _ hty
    rw [tyOfChain_set_other hS (hne c hcs)]; exact hty

theorem ne_clientKey_of_prefix {p k : Bytes} (hp : p.isPrefixOf k = true) (h1 : kClients.isPrefixOf p = false)
    (h2 : p.isPrefixOf kClients = false) (c path : Bytes) : k ≠ clientKey c path :=
  ne_of_isPrefixOf _ hp (isPrefixOf_eq_false p (clients_prefix_clientKey c path) h1 h2)

/-- `SetClientConsensusState` at ANY height / revision (all 2^128 byte patterns) keeps ModuleKeys -/
theorem moduleKeys_setConsensusState {s : Store} (h : ModuleKeys s) {chain blob : Bytes} (hgt : Height)
    (hc : slash ∉ chain) (hb : (consTy blob).isSome = true) : ModuleKeys (setConsensusState s chain hgt blob) := by
  apply moduleKeys_set h
  · intro c hcs e
    exact consPath_ne_clientState hgt (clientKey_inj hc hcs e).2
  · rw [xKeyOk_clientKey hc, if_neg (consPath_ne_clientState hgt), consHeight?_consPath]
    exact hb

theorem moduleKeys_setMeta {s : Store} (h : ModuleKeys s) {chain path : Bytes} {ty : Ty} (hc : slash ∉ chain)
    (hty : tyOfChain s chain = some ty) (hmp : metaPath ty path = true) (v : Bytes) :
    ModuleKeys (set s (clientKey chain path) v) ∧ tyOfChain (set s (clientKey chain path) v) chain = some ty := by
  obtain ⟨hne, hnc⟩ := metaPath_special hmp
  have hk : ∀ c, slash ∉ c → clientKey chain path ≠ clientKey c kClientState :=
    fun c hcs e => hne (clientKey_inj hc hcs e).2
  refine ⟨moduleKeys_set h hk ?_, by rw [tyOfChain_set_other (sorted_of_moduleKeys h) (hk chain hc)]; exact hty⟩
  rw [xKeyOk_clientKey hc, if_neg hne, hnc, hty]
  exact hmp

theorem metaPath_tm_ptime (hgt : Height) : metaPath .tm (ptimePath hgt) = true := by
  have hlen : (ptimePath hgt).length = 46 := rfl
  have h1 : kConsWord.isPrefixOf (ptimePath hgt) = true :=
    isPrefixOf_trans (show kConsWord.isPrefixOf kConsPrefix = true by decide)
      (by rw [ptimePath, consPath, List.append_assoc]; exact isPrefixOf_append _ _)
  have h2 : isSuffix kProcessedTime (ptimePath hgt) = true := (isSuffix_iff _ _).mpr ⟨consPath hgt, rfl⟩
  simp only [metaPath, h1, h2, hlen]
  rfl

theorem metaPath_tm_iter (hgt : Height) : metaPath .tm (iterPath hgt) = true := by
  have : kIterate.isPrefixOf (iterPath hgt) = true := isPrefixOf_append _ _
  simp [metaPath, this]

/-- the metadata a Tendermint update writes (`setConsensusMetadata`: processed time + iteration key) keeps ModuleKeys,
for every height, on a chain that has a Tendermint client -/
theorem moduleKeys_tmSetMeta {s : Store} (h : ModuleKeys s) {chain cv : Bytes} (hgt : Height) (t : UInt64)
    (hc : slash ∉ chain) (hcl : get s (clientKey chain kClientState) = some cv) (hty : clientTy cv = some .tm) :
    ModuleKeys (tmSetMeta s chain hgt t) := by
  have t0 : tyOfChain s chain = some .tm := by unfold tyOfChain; rw [hcl]; exact hty
  obtain ⟨h1, t1⟩ := moduleKeys_setMeta h hc t0 (metaPath_tm_ptime hgt) (be64 t)
  exact (moduleKeys_setMeta h1 hc t1 (metaPath_tm_iter hgt) (consPath hgt)).1

theorem xKeyOk_packet {s : Store} {pfx src dst v : Bytes} (n : UInt64) (hs : slash ∉ src) (hd : slash ∉ dst)
    (hpfx : pfx = kAcks ∨ pfx = kCommitments ∨ pfx = kReceipts) (hv : pfx = kReceipts → v = [1]) :
    xKeyOk s (packetKey pfx src dst n.toNat) v = true := by
  have hp : slash ∉ pfx := by rcases hpfx with rfl | rfl | rfl <;> decide
  have hpre := packetKey_prefix pfx src dst n.toNat
  have hok : hashKeyOk pfx (packetKey pfx src dst n.toNat) = true := by
    rw [hashKeyOk, packetKey_split n.toNat hp hs hd]
    simp only [parseDec_toDec n.toNat (UInt64.toNat_lt n), beq_self_eq_true, Bool.and_self]
  rcases hpfx with rfl | rfl | rfl
  · rw [xKeyOk_acks hpre]; exact hok
  · rw [xKeyOk_commitments hpre]; exact hok
  · rw [xKeyOk_receipts hpre, hok, hv rfl]; rfl

theorem packetKey_not_clientState {pfx src dst : Bytes} (n : Nat) (hpfx : pfx = kAcks ∨ pfx = kCommitments ∨ pfx = kReceipts) :
    ∀ c, slash ∉ c → packetKey pfx src dst n ≠ clientKey c kClientState := by
  intro c _
  rcases hpfx with rfl | rfl | rfl <;>
    exact ne_clientKey_of_prefix (packetKey_prefix _ src dst n) (by decide) (by decide) c _

/-- the packet keeper's setters keep ModuleKeys for every sequence number (all of UInt64) and all chain names without '/' -/
theorem moduleKeys_packet {s : Store} (h : ModuleKeys s) {src dst : Bytes} (n : UInt64) (d : Bytes)
    (hs : slash ∉ src) (hd : slash ∉ dst) :
    ModuleKeys (setCommitment s src dst n d) ∧ ModuleKeys (setAck s src dst n d) ∧ ModuleKeys (setReceipt s src dst n) :=
  ⟨moduleKeys_set h (packetKey_not_clientState _ (Or.inr (Or.inl rfl))) (xKeyOk_packet n hs hd (Or.inr (Or.inl rfl)) (fun e => absurd e (by decide))),
   moduleKeys_set h (packetKey_not_clientState _ (Or.inl rfl)) (xKeyOk_packet n hs hd (Or.inl rfl) (fun e => absurd e (by decide))),
   moduleKeys_set h (packetKey_not_clientState _ (Or.inr (Or.inr rfl))) (xKeyOk_packet n hs hd (Or.inr (Or.inr rfl)) (fun _ => rfl))⟩

theorem moduleKeys_setChainName {s : Store} (h : ModuleKeys s) (n : Bytes) : ModuleKeys (setChainName s n) :=
  moduleKeys_set h (fun c _ e => clientKey_ne_chainName c _ e.symm) (by simp [xKeyOk])

/-- GetParamSet / SetParamSet over every key: the parameter store round-trips -/
theorem roundtrip_params {p : Store} (h : Sorted p) : initParams (exportParams p) = p :=
  setAll_nil_eq h p (fun _ h => h) (fun _ h => h)

def demoTmClient : Bytes := 0x0a :: 52 :: urlTmClient ++ [0x12, 0x01, 0x00]
def demoTmCons : Bytes := 0x0a :: 55 :: urlTmCons ++ [0x12, 0x01, 0x00]
def demoChain : Bytes := [0x61, 0x62, 0x63]
/-- a concrete non-trivial state: chain name, a Tendermint client on chain "abc" with consensus states at 1-47 and at
revision 0x2f2f…/height 303 (bytes 0x2f inside the key), their processed-time and iteration keys, a packet commitment
with the maximal sequence, a receipt and a send sequence -/
def demoStore : Store :=
  setNextSeq (setReceipt (setCommitment
    (tmSetMeta (setConsensusState (tmSetMeta (setConsensusState (setClientState (setChainName [] [0x74, 0x65, 0x6c, 0x65])
      demoChain demoTmClient) demoChain (1, 47) demoTmCons) demoChain (1, 47) 5)
      demoChain (0x2f2f2f2f2f2f2f2f, 303) demoTmCons) demoChain (0x2f2f2f2f2f2f2f2f, 303) 6)
    demoChain [0x78, 0x79, 0x7a] 18446744073709551615 [1, 2, 3]) [0x78, 0x79, 0x7a] demoChain 9) demoChain [0x78, 0x79, 0x7a] 47

/-- the state these writes reach, entry by entry in key order; the examples below look into this list -/
theorem demoStore_eq : demoStore =
    [(kChainName, [0x74, 0x65, 0x6c, 0x65]),
     (clientKey demoChain kClientState, demoTmClient),
     (clientKey demoChain (consPath (1, 47)), demoTmCons),
     (clientKey demoChain (ptimePath (1, 47)), be64 5),
     (clientKey demoChain (consPath (0x2f2f2f2f2f2f2f2f, 303)), demoTmCons),
     (clientKey demoChain (ptimePath (0x2f2f2f2f2f2f2f2f, 303)), be64 6),
     (clientKey demoChain (iterPath (1, 47)), consPath (1, 47)),
     (clientKey demoChain (iterPath (0x2f2f2f2f2f2f2f2f, 303)), consPath (0x2f2f2f2f2f2f2f2f, 303)),
     (packetKey kCommitments demoChain [0x78, 0x79, 0x7a] 18446744073709551615, [1, 2, 3]),
     (nextSeqKey demoChain [0x78, 0x79, 0x7a], be64 47),
     (packetKey kReceipts [0x78, 0x79, 0x7a] demoChain 9, [1])] := by decide +kernel

set_option maxRecDepth 100000 in
example : ModuleKeys demoStore := by rw [demoStore_eq]; decide +kernel

set_option maxRecDepth 100000 in
example : demoStore.length = 11 := by rw [demoStore_eq]; rfl

set_option maxRecDepth 100000 in
/-- the hypotheses of `export_validates` are satisfiable on the same state -/
example : WellFormed ⟨fun _ => true, fun _ => true, fun _ => [], fun _ => [], fun _ => [], fun _ => true⟩ demoStore := by
  rw [demoStore_eq]; unfold WellFormed; decide +kernel

end TM.Genesis
