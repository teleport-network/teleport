import TeleportModel.Proofs.C10
import TeleportModel.Lemmas.Outcome
/-
C10 across pruning steps (repaired `RestrictChain`).  The invariant `InvP` survives every accepted update, the prune
pass (`pruneStep`, the model's transcription of the `pruneCb` pass + `deleteConsensusStateAndIndexHeader`) included:
  * header-index keys consistent, head stored, consensus states right along the head's stored ancestry (`Core`);
  * the head's stored ancestry ends exactly at the prune line `P` (= lowest kept consensus state); everything the
    prune pass ever deleted stays deleted (`DeadOk`), so nothing below `P` can be walked into again;
  * root-main entries of headers at or above the line point at the header itself (needs: no two headers of the
    counterparty chain at one height share a state root, `UOkP.rootSep`).
`never_wedged_partial`: a rule-abiding child whose stored ancestry meets the head's stored ancestry (`LiveC`, i.e. the
branch forks at or above the prune line) is accepted, whatever was pruned before.  The complement is the known finding
`C10:valid-child-rejected:fork-below-prune-line` (`below_line_rejected`).
After `ancestry_roots_pruned` the file holds what else the property was checked against and does not concern pruning: two
clients in one chain, restarts and discarded executions (`frame`, `wreach_client`), the stateless message stage
(`msgUpdate_ok_iff`), the difficulty factor, the uint64 time-stamp comparison, `beNat`, and the create / upgrade / toggle
proposals; the witness history with pruning comes last.
-/
namespace TM.Eth

theorem minKey_mem {α : Type} (m : List (Nat × α)) (k : Nat) (h : minKey m = some k) : (aget m k).isSome := by
  fun_induction minKey m generalizing k with
  | case1 => cases h
  | case2 k0 v m hm ih => cases h; simp [aget]
  | case3 k0 v m k' hm ih =>
    cases h
    by_cases e : k0 ≤ k'
    · simp [aget, Nat.min_eq_left e]
    · rw [Nat.min_eq_right (Nat.le_of_not_le e), aget, if_neg (fun h => e (Nat.le_of_eq h))]; exact ih _ hm

theorem minKey_le {α : Type} (m : List (Nat × α)) (k : Nat) (h : (aget m k).isSome) : ∃ k', minKey m = some k' ∧ k' ≤ k := by
  induction m with
  | nil => cases h
  | cons p m ih =>
    obtain ⟨k0, v0⟩ := p
    unfold minKey
    by_cases e : k0 = k
    · cases minKey m with
      | none => exact ⟨k0, rfl, Nat.le_of_eq e⟩
      | some k' => exact ⟨min k0 k', rfl, e ▸ Nat.min_le_left k0 k'⟩
    · rw [aget, if_neg e] at h
      obtain ⟨k', h1, h2⟩ := ih h
      rw [h1]
      exact ⟨min k0 k', rfl, Nat.le_trans (Nat.min_le_right _ _) h2⟩

theorem minKey_spec {α : Type} (m : List (Nat × α)) (P : Nat) (h1 : (aget m P).isSome)
    (h2 : ∀ k v, aget m k = some v → P ≤ k) : minKey m = some P := by
  obtain ⟨k', e, hle⟩ := minKey_le m P h1
  obtain ⟨v, hv⟩ := Option.isSome_iff_exists.mp (minKey_mem m k' e)
  rw [e, Nat.le_antisymm hle (h2 k' v hv)]

structure UOkP (env : Env) (U : Header → Prop) : Prop where
  base : UOk env U
  rootSep : ∀ a b, U a → U b → a.number = b.number → a.root = b.root → a = b

def pkey (h : Header) : Key := (h.parentHash, pred64 h.number)

/-- `dl` = every header the prune pass has deleted so far; they stay deleted and hang together down to height `g0` -/
def DeadOk (env : Env) (U : Header → Prop) (g0 : Nat) (s : State) (dl : List Header) : Prop :=
  ∀ d ∈ dl, U d ∧ aget s.hdr (hkey env d) = none ∧ (pkey d ∈ dl.map (hkey env) ∨ d.number = g0)

structure InvP (env : Env) (U : Header → Prop) (g0 : Nat) (s : State) (P : Nat) (dl : List Header) : Prop where
  core : Core env U s
  lower : ∀ k h, aget s.hdr k = some h → g0 ≤ h.number
  le : P ≤ s.head.number
  dead : DeadOk env U g0 s dl
  bottom : ∃ b, walkCur s (s.head.number - P) s.head = some b ∧ (pkey b ∈ dl.map (hkey env) ∨ b.number = g0)
  consLo : ∀ k v, aget s.cons k = some v → P ≤ k
  rm : ∀ k h, aget s.hdr k = some h → P ≤ h.number → aget s.rootMain (h.root, h.number) = some (hkey env h)

section
variable {env : Env} {U : Header → Prop} {g0 : Nat}

theorem no_parent (hU : UOk env U) {s : State} {dl : List Header} (hk : KeyOk env U s)
    (hlow : ∀ k h, aget s.hdr k = some h → g0 ≤ h.number) (hd : DeadOk env U g0 s dl) {h : Header}
    (uh : U h) (hc : pkey h ∈ dl.map (hkey env) ∨ h.number = g0) : parentOf s h = none := by
  rcases hc with hc | hc
  · obtain ⟨d, hd', e⟩ := List.mem_map.mp hc
    exact (congrArg (aget s.hdr) e).symm.trans (hd d hd').2.1
  · exact no_parent_low hU hk hlow uh hc

theorem bottom_facts (hU : UOkP env U) {s : State} {P : Nat} {dl : List Header} (hi : InvP env U g0 s P dl) :
    ∃ b, walkCur s (s.head.number - P) s.head = some b ∧ b.number = P ∧ Stored env s b ∧ parentOf s b = none ∧
      (pkey b ∈ dl.map (hkey env) ∨ b.number = g0) := by
  obtain ⟨b, hb, hc⟩ := hi.bottom
  have sb := (up_facts hU.base hi.core.key _ hi.core.head hb).2
  exact ⟨b, hb, up_number hU.base hi.core.key hi.core.head hi.le hb, sb,
    no_parent hU.base hi.core.key hi.lower hi.dead (stored_U hi.core sb) hc, hc⟩

/-- the head's stored ancestry ends at the prune line -/
theorem main_ge (hU : UOkP env U) {s : State} {P : Nat} {dl : List Header} (hi : InvP env U g0 s P dl) {n : Nat} {a : Header}
    (ha : walkCur s n s.head = some a) : n ≤ s.head.number - P := by
  obtain ⟨b, hb, _, _, hn, _⟩ := bottom_facts hU hi
  exact up_le_of_bottom hb hn ha

theorem main_above (hU : UOkP env U) {s : State} {P : Nat} {dl : List Header} (hi : InvP env U g0 s P dl) {n : Nat} {a : Header}
    (ha : walkCur s n s.head = some a) : P ≤ a.number := by
  have h1 := Nat.add_le_of_le_sub hi.le (main_ge hU hi ha)
  rw [← (up_facts hU.base hi.core.key n hi.core.head ha).1, Nat.add_comm] at h1
  exact Nat.le_of_add_le_add_right h1

theorem up_above (hU : UOk env U) {s s1 : State} (hk : KeyOk env U s) {b : Header}
    (hs1 : ∀ k h, aget s.hdr k = some h → k ≠ hkey env b → aget s1.hdr k = some h) (n : Nat) {x a : Header}
    (h : walkCur s n x = some a) (hP : b.number < a.number) : walkCur s1 n x = some a := by
  induction n generalizing x with
  | zero => exact h
  | succ n ih =>
    obtain ⟨q, hq, h⟩ := up_succ_some.mp h
    have eq := (up_facts hU hk n (stored_of_get hk hq) h).1
    refine up_succ_some.mpr ⟨q, hs1 _ _ hq (fun e => ?_), ih h⟩
    have : q.number = b.number := congrArg Prod.snd ((hk _ _ hq).1.symm.trans e)
    exact Nat.lt_irrefl _ (Nat.lt_of_lt_of_le hP (this ▸ Nat.le.intro eq))

/-- the prune pass never fails on a store satisfying the invariant, and re-establishes it at the same line or a higher one
    (the proof moves it by one; the statement only says `P ≤ P1`) -/
theorem prune_inv (hU : UOkP env U) {s : State} {P : Nat} {dl : List Header} (hi : InvP env U g0 s P dl) {now : Nat}
    (hact : active s now = true) :
    ∃ s1 P1 dl1, pruneStep s now = .ok s1 ∧ InvP env U g0 s1 P1 dl1 ∧ P ≤ P1 ∧ s1.head = s.head ∧ s1.chainId = s.chainId ∧
      s1.trusting = s.trusting ∧
      (∀ k h, aget s1.hdr k = some h → aget s.hdr k = some h) ∧
      (∀ d ∈ dl1, d ∈ dl ∨ walkCur s (s.head.number - P) s.head = some d) := by
  obtain ⟨b, hb, ebn, sb, _, hbc⟩ := bottom_facts hU hi
  have hk := hi.core.key
  have hcb : aget s.cons P = some (consOf b) := ebn ▸ hi.core.roots _ _ hb
  have hmin : minKey s.cons = some P := minKey_spec _ _ (by rw [hcb]; rfl) hi.consLo
  by_cases hex : expired s now (consOf b) = true
  · -- the lowest consensus state has expired: it is deleted together with the bottom header `b`
    have hph : pruneHeight s now = some P := by simp only [pruneHeight, hmin, hcb, hex, ↓reduceIte]
    have hrm : aget s.rootMain ((consOf b).root, P) = some (hkey env b) := ebn ▸ hi.rm _ _ sb (Nat.le_of_eq ebn.symm)
    -- the head is above the line: its own consensus state has not expired
    have hM : P < s.head.number := by
      refine Nat.lt_of_le_of_ne hi.le (fun e => ?_)
      simp only [active, ← e, hcb, hex, Bool.not_true, Bool.false_eq_true] at hact
    let s1 : State := { s with hdr := adel s.hdr (hkey env b), rootMain := adel s.rootMain ((consOf b).root, P), cons := adel s.cons P }
    have hstep : pruneStep s now = .ok s1 := by simp only [pruneStep, hph, deleteAt, hcb, hrm, s1]
    have hmono : ∀ k h, aget s1.hdr k = some h → aget s.hdr k = some h := fun k h hk => adel_mono _ _ _ _ hk
    have hkey1 : KeyOk env U s1 := fun k h hg => hk _ _ (hmono k h hg)
    have hbdel : aget s1.hdr (hkey env b) = none := aget_adel_self _ _
    have hupdel := up_above hU.base (s1 := s1) hk (b := b) (fun k h hg e => (aget_adel_ne _ e).trans hg)
    have hhead1 : Stored env s1 s.head :=
      (aget_adel_ne _ (fun e => absurd ((Prod.mk.inj e).2.trans ebn) (Nat.ne_of_gt hM))).trans hi.core.head
    -- the new bottom: the child of b on the head's ancestry
    obtain ⟨b1, hb1, hb1b⟩ := up_at hU.base hk hi.core.head hb (k := P + 1) (Nat.le_succ_of_le (Nat.le_of_eq ebn)) hM
    have eb1 := up_number hU.base hk hi.core.head hM hb1
    rw [ebn, Nat.add_sub_cancel_left] at hb1b
    obtain ⟨q, hpb1, hq⟩ := up_succ_some.mp hb1b
    obtain rfl : b = q := (Option.some.inj hq).symm
    have hpk : pkey b1 = hkey env b := (hk _ _ hpb1).1
    refine ⟨s1, P + 1, b :: dl, hstep, ⟨⟨hkey1, hhead1, ?_⟩, fun k h hg => hi.lower _ _ (hmono k h hg), hM, ?_, ?_, ?_, ?_⟩,
      Nat.le_succ P, rfl, rfl, rfl, hmono, ?_⟩
    · -- consensus states along the head's ancestry: the walk stops above `b`, whose state alone was deleted
      intro n a ha
      have ha' := up_mono hmono n ha
      have sa1 : Stored env s1 a := (up_facts hU.base hkey1 n hhead1 ha).2
      have hne : a.number ≠ P := by
        intro e
        have e2 := (up_facts hU.base hk n hi.core.head ha').1
        rw [Nat.eq_sub_of_add_eq ((Nat.add_comm n P).trans (e ▸ e2)), hb] at ha'
        cases ha'
        cases hbdel.symm.trans sa1
      exact (aget_adel_ne _ hne).trans (hi.core.roots n a ha')
    · refine List.forall_mem_cons.mpr ⟨⟨stored_U hi.core sb, hbdel, hbc.imp_left (List.mem_cons_of_mem _)⟩, fun d hd => ?_⟩
      obtain ⟨ud, hnone, hc⟩ := hi.dead d hd
      refine ⟨ud, ?_, hc.imp_left (List.mem_cons_of_mem _)⟩
      show aget (adel s.hdr (hkey env b)) (hkey env d) = none
      rw [aget_adel, hnone, ite_self]
    · exact ⟨b1, hupdel _ hb1 (by rw [ebn, eb1]; exact Nat.lt_succ_self P), Or.inl (hpk ▸ List.mem_cons_self ..)⟩
    · intro k v hg
      refine Nat.lt_of_le_of_ne (hi.consLo k v (adel_mono _ _ _ _ hg)) (fun e => ?_)
      cases (aget_adel_self s.cons P).symm.trans (e ▸ hg)
    · intro k h hg hP
      exact (aget_adel_ne _ (fun e => absurd (Prod.mk.inj e).2 (Nat.ne_of_gt hP))).trans
        (hi.rm k h (hmono k h hg) (Nat.le_of_succ_le hP))
    · exact List.forall_mem_cons.mpr ⟨Or.inr hb, fun d hd => Or.inl hd⟩
  · have hph : pruneHeight s now = none := by
      simp only [pruneHeight, hmin, hcb, Bool.eq_false_iff.mpr hex, Bool.false_eq_true, ↓reduceIte]
    exact ⟨s, P, dl, by simp only [pruneStep, hph], hi, Nat.le_refl _, rfl, rfl, rfl, fun _ _ h => h, fun d hd => Or.inl hd⟩

/-- the index writes keep the root-main entries right (no two headers at one height share a state root) -/
theorem store_rm (hU : UOkP env U) {s : State} {P : Nat} (hk : KeyOk env U s)
    (hrm : ∀ k h, aget s.hdr k = some h → P ≤ h.number → aget s.rootMain (h.root, h.number) = some (hkey env h))
    {c : Header} (uc : U c) : ∀ k h, aget (store env s c).hdr k = some h → P ≤ h.number →
      aget (store env s c).rootMain (h.root, h.number) = some (hkey env h) := by
  refine store_forall (fun k h hg hP => ?_) (fun _ => aget_aset_self _ _ _)
  by_cases e : (h.root, h.number) = (c.root, c.number)
  · obtain ⟨e1, e2⟩ := Prod.mk.inj e
    rw [hU.rootSep _ _ (hk k h hg).2 uc e2 e1]
    exact aget_aset_self _ _ _
  · exact (aget_aset_ne _ _ e).trans (hrm k h hg hP)

/-- `update()` (index writes) keeps the invariant, provided the new header is not one of the pruned ones -/
theorem store_invP (hU : UOkP env U) {s : State} {P : Nat} {dl : List Header} (hi : InvP env U g0 s P dl) {c : Header}
    (uc : U c) (hlow : g0 ≤ c.number) (hnd : ∀ d ∈ dl, hkey env c ≠ hkey env d) :
    InvP env U g0 (store env s c) P dl ∧ Stored env (store env s c) c := by
  have hk := hi.core.key
  have hmono := store_mono hU.base hk uc
  have hkey2 := store_key hk uc
  have hlow2 : ∀ k h, aget (store env s c).hdr k = some h → g0 ≤ h.number := store_forall hi.lower hlow
  have hdead2 : DeadOk env U g0 (store env s c) dl := by
    intro d hd
    obtain ⟨ud, hnone, hc⟩ := hi.dead d hd
    exact ⟨ud, (aget_aset_ne _ _ (fun e => hnd d hd e.symm)).trans hnone, hc⟩
  -- the head's ancestry still ends at its old bottom: that header's parent key is dead, or it sits at the creation height
  obtain ⟨b, hb, _, sb, _, hbc⟩ := bottom_facts hU hi
  have hbn2 : parentOf (store env s c) b = none := no_parent hU.base hkey2 hlow2 hdead2 (stored_U hi.core sb) hbc
  exact ⟨⟨⟨hkey2, hmono _ _ hi.core.head, fun n a ha => hi.core.roots n a (up_of_mono_bottom hmono hb hbn2 ha)⟩,
    hlow2, hi.le, hdead2, ⟨b, up_mono hmono _ hb, hbc⟩, hi.consLo, store_rm hU hk hi.rm uc⟩, store_stored s c⟩

/-- a header that passes the parent lookup is none of the pruned ones, which have all lost their parent -/
theorem prune_alive (hU : UOkP env U) {s : State} {P : Nat} {dl : List Header} (hi : InvP env U g0 s P dl) {now : Nat} {c p : Header}
    (uc : U c) (hp : parentOf s c = some p) (hact : active s now = true) :
    ∃ s1 P1 dl1, pruneStep s now = .ok s1 ∧ InvP env U g0 s1 P1 dl1 ∧ P ≤ P1 ∧ s1.head = s.head ∧ g0 ≤ c.number ∧
      ∀ d ∈ dl1, hkey env c ≠ hkey env d := by
  obtain ⟨e1, _, sp⟩ := parent_facts hU.base hi.core.key uc hp
  obtain ⟨s1, P1, dl1, hpr, hi1, hPP, hhead, _, _, _, hdl⟩ := prune_inv hU hi hact
  refine ⟨s1, P1, dl1, hpr, hi1, hPP, hhead, Nat.le_trans (hi.lower _ _ sp) (Nat.le.intro e1), fun d hd e => ?_⟩
  have hd' : U d ∧ parentOf s d = none := by
    rcases hdl d hd with h | h
    · obtain ⟨ud, _, hc⟩ := hi.dead d h
      exact ⟨ud, no_parent hU.base hi.core.key hi.lower hi.dead ud hc⟩
    · obtain ⟨b, hb, _, sb, hbn, _⟩ := bottom_facts hU hi
      rw [hb] at h; cases h
      exact ⟨stored_U hi.core sb, hbn⟩
  obtain rfl := hU.base.inj _ _ uc hd'.1 (Prod.mk.inj e).1
  rw [hd'.2] at hp; cases hp

theorem keeper_invP (hU : UOkP env U) {s : State} {P : Nat} {dl : List Header} (hi : InvP env U g0 s P dl) {c : Header}
    (sc : Stored env s c) {cons' : List (Nat × Cons)} (h2 : AncRoots s c cons')
    (hdom : ∀ k v, aget cons' k = some v → P ≤ k)
    (hbot : ∃ n b, walkCur s n c = some b ∧ b.number = P ∧ (pkey b ∈ dl.map (hkey env) ∨ b.number = g0)) :
    InvP env U g0 { s with head := c, cons := aset cons' c.number (consOf c) } P dl := by
  obtain ⟨n, b, hb, hbP, hbc⟩ := hbot
  have f : P + n = c.number := hbP ▸ (up_facts hU.base hi.core.key n sc hb).1
  have hPc : P ≤ c.number := Nat.le.intro f
  refine ⟨head_write_core hU.base hi.core sc h2, hi.lower, hPc, hi.dead, ⟨b, ?_, hbc⟩, ?_, hi.rm⟩
  · rw [← Nat.eq_sub_of_add_eq ((Nat.add_comm n P).trans f)]
    exact (walkCur_hdr (by rfl) _ c).trans hb
  · intro k v hg
    by_cases e : k = c.number
    · exact e ▸ hPc
    · exact hdom k v ((aget_aset_ne _ _ e).symm.trans hg)

/-- every accepted update of the repaired client — prune pass included, whatever it is — re-establishes the invariant -/
theorem stepP (hU : UOkP env U) {s s' : State} {P : Nat} {dl : List Header} (hi : InvP env U g0 s P dl) {now : Nat} {c : Header}
    (uc : U c) (h : updateClient .fixed env now s c = .ok s') :
    ∃ P' dl', InvP env U g0 s' P' dl' ∧ P ≤ P' ∧ s'.head = c := by
  obtain ⟨hact, hcv, s1', s3, hpr', h3, rfl⟩ := updateClient_ok_iff.mp h
  obtain ⟨p, hp, _⟩ := checkValidity_ok hcv
  obtain ⟨en, hph, sp⟩ := parent_facts hU.base hi.core.key uc hp
  obtain ⟨s1, P1, dl1, hpr, hi1, hPP, hhead, hlow, hnd1⟩ := prune_alive hU hi uc hp hact
  obtain rfl : s1 = s1' := Outcome.ok.inj (hpr.symm.trans hpr')
  refine ⟨P1, dl1, ?_, hPP, rfl⟩
  obtain ⟨hi2, sc2⟩ := store_invP hU hi1 uc hlow hnd1
  obtain ⟨b1, hb1, eb1, _, _, hb1c⟩ := bottom_facts hU hi2
  by_cases hb : env.hash s.head = c.parentHash
  · -- extension of the head: `c` is the child of the head, whose ancestry it makes one step longer
    rw [if_neg (not_not_intro hb)] at h3
    obtain rfl : store env s1 c = s3 := Outcome.ok.inj h3
    obtain rfl : s.head = p := hU.base.inj _ _ (stored_U hi.core hi.core.head) (stored_U hi.core sp) (hb.trans hph.symm)
    rw [← hhead] at hb en
    have hpc : parentOf (store env s1 c) c = some s1.head := parentOf_child hU.base uc hi2.core.head hb en
    exact keeper_invP hU hi2 sc2 (extend_roots hi2.core hpc) hi2.consLo ⟨_, b1, up_succ_some.mpr ⟨_, hpc, hb1⟩, eb1, hb1c⟩
  · rw [if_pos hb] at h3
    obtain ⟨c', D, E, new2, cur2, rfl, hD, hE, hpe, hnum, h2, hdom⟩ := restrictChain_sound hU.base hi2.core sc2 h3
    -- the two walks met on the head's ancestry, which ends at the line
    have hPn : P1 ≤ new2.number := hnum ▸ main_above hU hi2 hE
    refine keeper_invP hU hi2 sc2 h2 (fun k v hk => ?_) ?_
    · rcases hdom k v hk with h | h
      · obtain ⟨v', hv⟩ := Option.isSome_iff_exists.mp h
        exact hi2.consLo k v' hv
      · exact Nat.le_trans hPn h
    · obtain ⟨z, hz, hzb⟩ := up_prefix _ hb1 E (main_ge hU hi2 hE)
      rw [hE] at hz
      obtain rfl : cur2 = z := Option.some.inj hz
      generalize (store env s1 c).head.number - P1 - E = j at hzb
      cases j with
      | zero =>
        -- the new branch meets the head's ancestry at the prune line: its header there is the new bottom
        obtain rfl : cur2 = b1 := Option.some.inj hzb
        refine ⟨D, new2, hD, hnum.symm.trans eb1, ?_⟩
        rw [pkey, ← hpe, ← hnum]; exact hb1c
      | succ i =>
        rw [up_congr _ hpe hnum i] at hzb
        exact ⟨_, b1, (up_add_some hD _).trans hzb, eb1, hb1c⟩

/-- What is guaranteed across pruning: whatever has been pruned, a rule-abiding child `c` of a
    stored header is accepted by the active client if it extends the head, or if (after this update's prune pass) its
    stored ancestry meets the head's stored ancestry (`LiveC`: the branch forks at or above the prune line). -/
theorem never_wedged_partial (hU : UOkP env U) {s : State} {P : Nat} {dl : List Header} (hi : InvP env U g0 s P dl) {now : Nat}
    {p c : Header} (uc : U c) (sp : Stored env s p) (hv : ValidChild env s.chainId now p c)
    (hact : active s now = true)
    (hl : ∀ s1, pruneStep s now = .ok s1 → env.hash s.head = c.parentHash ∨ LiveC (store env s1 c) c) :
    ∃ s', updateClient .fixed env now s c = .ok s' ∧ s'.head = c := by
  have hpo := parentOf_child hU.base uc sp hv.hash hv.number
  obtain ⟨s1, P1, dl1, hpr, hi1, _, _, hlow, hnd1⟩ := prune_alive hU hi uc hpo hact
  obtain ⟨hi2, sc2⟩ := store_invP hU hi1 uc hlow hnd1
  have hcv := checkValidity_complete hpo hv
  by_cases hb : env.hash s.head = c.parentHash
  · exact ⟨_, updateClient_ok_iff.mpr ⟨hact, hcv, s1, _, hpr, if_neg (not_not_intro hb), rfl⟩, rfl⟩
  · obtain ⟨s3, h3⟩ := restrictChain_total hU.base hi2.core sc2 ((hl s1 hpr).resolve_left hb)
    exact ⟨_, updateClient_ok_iff.mpr ⟨hact, hcv, s1, s3, hpr, (if_pos hb).trans h3, rfl⟩, rfl⟩

/-- the condition is also necessary: an update accepted through `RestrictChain` had `LiveC` -/
theorem live_necessary (hU : UOkP env U) {s1 s3 : State} {P : Nat} {dl : List Header} (hi1 : InvP env U g0 s1 P dl) {c : Header}
    (uc : U c) (hlow : g0 ≤ c.number) (hnd : ∀ d ∈ dl, hkey env c ≠ hkey env d)
    (h3 : restrictChain .fixed env (store env s1 c) c = .ok s3) : LiveC (store env s1 c) c := by
  obtain ⟨hi2, sc2⟩ := store_invP hU hi1 uc hlow hnd
  obtain ⟨_, D, E, new2, cur2, _, hD, hE, hpe, hnum, _, _⟩ := restrictChain_sound hU.base hi2.core sc2 h3
  exact ⟨D, E, new2, cur2, hD, hE, hnum.symm, hpe⟩

/-- needs key consistency only: one step up from `c` is `y`, which the head reaches as before the index writes -/
theorem liveC_of_child (hU : UOk env U) {s : State} (hk : KeyOk env U s)
    (sh : Stored env s s.head) {c y : Header} (uc : U c) {m : Nat} (hy : walkCur s m s.head = some y)
    (eh : env.hash y = c.parentHash) (en : y.number + 1 = c.number) : LiveC (store env s c) c := by
  have hm := store_mono hU hk uc
  have hpc : parentOf (store env s c) c = some y := parentOf_child hU uc (hm _ _ (up_facts hU hk m sh hy).2) eh en
  exact ⟨1, m, y, y, up_succ_some.mpr ⟨y, hpc, rfl⟩, up_mono hm m hy, rfl, rfl⟩

/-- a child of any header on the head's stored ancestry (after this update's prune pass) is live -/
theorem live_of_main (hU : UOkP env U) {s1 : State} {P : Nat} {dl : List Header} (hi1 : InvP env U g0 s1 P dl) {c y : Header}
    (uc : U c) (hlow : g0 ≤ c.number) (hnd : ∀ d ∈ dl, hkey env c ≠ hkey env d) {m : Nat}
    (hy : walkCur s1 m s1.head = some y) (eh : env.hash y = c.parentHash) (en : y.number + 1 = c.number) :
    LiveC (store env s1 c) c :=
  liveC_of_child hU.base hi1.core.key hi1.core.head uc hy eh en

/-- states of the repaired client reachable from its creation by ANY sequence of accepted updates (pruning included) -/
inductive ReachP (env : Env) (U : Header → Prop) (g : Header) (chainId trusting : Nat) : State → Prop
  | init : ReachP env U g chainId trusting (initState env chainId trusting g)
  | step {s s' : State} {now : Nat} {c : Header} : ReachP env U g chainId trusting s → U c →
      updateClient .fixed env now s c = .ok s' → ReachP env U g chainId trusting s'

theorem init_invP (hU : UOkP env U) {g : Header} (ug : U g) (chainId trusting : Nat) :
    InvP env U g.number (initState env chainId trusting g) g.number [] := by
  refine ⟨(init_inv hU.base ug chainId trusting).core, ?_, Nat.le_refl _, (fun d hd => nomatch hd), ⟨g, ?_, Or.inr rfl⟩, ?_, ?_⟩
  · intro k h hk
    exact Nat.le_of_eq (congrArg Header.number (initState_hdr hk).2.symm)
  · show walkCur _ (g.number - g.number) g = some g
    rw [Nat.sub_self]; rfl
  · intro k v hk
    simp only [initState, aget] at hk
    by_cases e : g.number = k
    · exact Nat.le_of_eq e
    · rw [if_neg e] at hk; cases hk
  · intro k h hk _
    obtain ⟨_, rfl⟩ := initState_hdr hk
    simp [initState, aget]

theorem reachP_inv (hU : UOkP env U) {g : Header} (ug : U g) {chainId trusting : Nat} {s : State}
    (hr : ReachP env U g chainId trusting s) : ∃ P dl, InvP env U g.number s P dl := by
  induction hr with
  | init => exact ⟨_, _, init_invP hU ug chainId trusting⟩
  | step _ uc hs ih =>
    obtain ⟨P, dl, hi⟩ := ih
    obtain ⟨P', dl', hi', _, _⟩ := stepP hU hi uc hs
    exact ⟨P', dl', hi'⟩

/-- `never_wedged_partial` on the states reachable by any history -/
theorem never_wedged_pruned (hU : UOkP env U) {g : Header} (ug : U g) {chainId trusting : Nat} {s : State}
    (hr : ReachP env U g chainId trusting s) {now : Nat} {p c : Header} (uc : U c) (sp : Stored env s p)
    (hv : ValidChild env s.chainId now p c) (hact : active s now = true)
    (hl : ∀ s1, pruneStep s now = .ok s1 → env.hash s.head = c.parentHash ∨ LiveC (store env s1 c) c) :
    ∃ s', updateClient .fixed env now s c = .ok s' ∧ s'.head = c := by
  obtain ⟨P, dl, hi⟩ := reachP_inv hU ug hr
  exact never_wedged_partial hU hi uc sp hv hact hl

/-- the prune pass itself never wedges the client -/
theorem prune_total (hU : UOkP env U) {g : Header} (ug : U g) {chainId trusting : Nat} {s : State}
    (hr : ReachP env U g chainId trusting s) {now : Nat} (hact : active s now = true) : ∃ s1, pruneStep s now = .ok s1 := by
  obtain ⟨P, dl, hi⟩ := reachP_inv hU ug hr
  obtain ⟨s1, _, _, h, _⟩ := prune_inv hU hi hact
  exact ⟨s1, h⟩

/-- `ancestry_roots` across pruning: in every reachable state every consensus state kept for a height up to the head's
    is the (time, state root) of the head's ancestor at that height, which is still in the index. -/
theorem ancestry_roots_pruned (hU : UOkP env U) {g : Header} (ug : U g) {chainId trusting : Nat} {s : State}
    (hr : ReachP env U g chainId trusting s) (k : Nat) (v : Cons) (hk : aget s.cons k = some v) (hle : k ≤ s.head.number) :
    ∃ a, walkCur s (s.head.number - k) s.head = some a ∧ a.number = k ∧ v = { time := a.time, root := a.root } := by
  obtain ⟨P, dl, hi⟩ := reachP_inv hU ug hr
  obtain ⟨b, hb, eb, _⟩ := bottom_facts hU hi
  -- `k` is at or above the line, where the head's ancestry ends
  obtain ⟨a, ha, _⟩ := up_at hU.base hi.core.key hi.core.head hb (eb ▸ hi.consLo k v hk) hle
  have e2 := up_number hU.base hi.core.key hi.core.head hle ha
  have hr := hi.core.roots _ a ha
  rw [e2, hk] at hr
  exact ⟨a, ha, e2, Option.some.inj hr⟩

end

theorem World.get_set_same (w : World) (i : Bool) (s : State) : (w.set i s).get i = some s := by
  cases i <;> simp [World.get, World.set]

theorem World.get_set_other (w : World) (i : Bool) (s : State) : (w.set i s).get (!i) = w.get (!i) := by
  cases i <;> simp [World.get, World.set]

theorem World.get_set_cases {w : World} {i j : Bool} {s s' : State} (h : (w.set i s').get j = some s) :
    (j = i ∧ s = s') ∨ w.get j = some s := by
  by_cases e : j = i
  · subst e; rw [World.get_set_same] at h; cases h; exact Or.inl ⟨rfl, rfl⟩
  · rw [Bool.eq_not_of_ne e] at h ⊢; rw [World.get_set_other] at h; exact Or.inr h

/-- the stateless stage adds nothing: `MsgUpdateClient.ValidateBasic ; UpdateClient` accepts exactly what `UpdateClient`
    accepts (`checkValidity` runs the same `ValidateBasic` first) -/
theorem msgUpdate_ok_iff {v : Variant} {env : Env} {now : Nat} {s s' : State} {h : Header} :
    msgUpdate v env now s h = .ok s' ↔ updateClient v env now s h = .ok s' := by
  unfold msgUpdate
  refine ite_err_eq_ok.trans ⟨And.right, fun h1 => ⟨?_, h1⟩⟩
  rw [checkValidity_basic (updateClient_ok_iff.mp h1).2.1]
  decide

theorem diffFactor_clamp (y : Int) :
    -99 ≤ (if y < -99 then -99 else y) ∧ (y ≤ 2 → (if y < -99 then -99 else y) ≤ 2) ∧
    (y ≤ -99 → (if y < -99 then -99 else y) = -99) := by
  by_cases h : y < -99
  · rw [if_pos h]
    exact ⟨Int.le_refl _, fun _ => by decide, fun _ => rfl⟩
  · rw [if_neg h]
    exact ⟨Int.not_lt.mp h, id, fun h' => Int.le_antisymm h' (Int.not_lt.mp h)⟩

/-- The adjustment factor lies in [−99, 2] (for a child not older than its parent), and
    it IS −99 as soon as the child is ≥ 909 s after its parent, whether or not the parent has uncles (without uncles
    already from 900 s on): the uncle term sits inside the maximum -/
theorem difficulty_factor_bounds (time : Nat) (p : Header) :
    -99 ≤ diffFactor time p ∧ (p.time ≤ time → diffFactor time p ≤ 2) ∧
    (p.time + 909 ≤ time → diffFactor time p = -99) ∧ (p.uncleEmpty = true → p.time + 900 ≤ time → diffFactor time p = -99) := by
  have hu : (if p.uncleEmpty then 1 else 2) ≤ (2 : Int) := by cases p.uncleEmpty <;> decide
  -- `909 = 101 * 9` and `900 = 100 * 9`: the quotient by 9 of the time difference reaches 101, resp. 100
  have hx : ∀ {k : Nat}, p.time + k * 9 ≤ time → (k : Int) ≤ ((time : Int) - p.time) / 9 :=
    fun h => Int.le_ediv_of_mul_le (by decide) (Int.le_sub_left_of_add_le (Int.ofNat_le.mpr h))
  obtain ⟨h1, h2, h3⟩ := diffFactor_clamp ((if p.uncleEmpty then 1 else 2) - ((time : Int) - p.time) / 9)
  refine ⟨h1, fun h => h2 ?_, fun h => h3 ?_, fun hu' h => h3 ?_⟩
  · exact Int.le_trans (Int.sub_le_self _ (hx (k := 0) h)) hu
  · exact Int.sub_le_sub hu (hx (k := 101) h)
  · rw [hu']
    exact Int.sub_le_sub (Int.le_refl 1) (hx (k := 100) h)

/-- the future-block rule as the code computes it: `header.Time > uint64(ctx.BlockTime().Add(15 s).Unix())` on uint64 -/
def codeFuture (t now : Nat) : Bool := decide (t % two64 > (now + 15) % two64)

/-- For every header time below 2^64 and every block time whose Unix seconds `now` satisfy
    `0 ≤ now` and `now + 15 < 2^63` (so that `Unix()` of block time + 15 s is a non-negative int64 and `uint64(·)` keeps its value) the
    code's uint64 comparison is the model's comparison on naturals.  A NEGATIVE Unix block time (before 1970) is outside this range:
    there `uint64(Unix())` is huge and the unchanged code lets every header pass the future check. -/
theorem timestamp_rule_uint64_faithful (t now : Nat) (ht : t < two64) (hn : now + 15 < two63) :
    codeFuture t now = decide (t > now + 15) := by
  unfold codeFuture
  rw [Nat.mod_eq_of_lt ht, Nat.mod_eq_of_lt (Nat.lt_trans hn (by decide))]

/-- Two closed facts behind the remark that a rewrite of the comparison through `int64(header.Time)` would not be faithful:
    2^63 wraps to a negative int64 although it is far beyond any block time + 15 s.  No function of such a rewrite is modelled. -/
theorem int64_cast_unfaithful : wrapI64 ((two63 : Nat) : Int) < 0 ∧ decide ((two63 : Nat) > 1700000020 + 15) = true := by
  constructor <;> decide

/-- `beNat []  = 0`: an absent (empty) base fee / difficulty IS the value 0 -/
theorem beNat_nil : beNat [] = 0 := rfl

theorem beNat_zero_cons (b : Bytes) : beNat (0 :: b) = beNat b := by
  simp [beNat, List.foldl]

theorem World.update_ok {v : Variant} {env : Env} {now : Nat} {w w' : World} {i : Bool} {h : Header}
    (hu : World.update v env now w i h = .ok w') :
    ∃ s s', w.get i = some s ∧ updateClient v env now s h = .ok s' ∧ w' = w.set i s' := by
  unfold World.update at hu
  split at hu
  · cases hu
  · rename_i s hg
    split at hu
    · rename_i s' hc
      cases hu
      exact ⟨s, s', hg, msgUpdate_ok_iff.mp hc, rfl⟩
    · cases hu
    · cases hu

/-- An update of one client leaves the other client's store exactly as it was (verdicts on one client are
    independent of the other's history) -/
theorem frame {v : Variant} {env : Env} {now : Nat} {w w' : World} {i : Bool} {h : Header}
    (hu : World.update v env now w i h = .ok w') : w'.get (!i) = w.get (!i) := by
  obtain ⟨s, s', _, _, rfl⟩ := World.update_ok hu
  exact World.get_set_other w i s'

/-- Restates a modelling decision, proves no round trip: `World.restart` is DEFINED as the identity (export → JSON → import is
    taken to lose nothing the property talks about); what covers the real thing is the differential run with module-level and
    whole-app restarts in the middle of histories (`TestC10`). -/
theorem restart_identity (w : World) : w.restart = w := rfl

/-- Likewise by definition: `World.discarded` returns its world whatever the update does (a dropped cache context); the
    differential run executes every probe on such a context. -/
theorem discarded_identity (v : Variant) (env : Env) (now : Nat) (w : World) (i : Bool) (h : Header) :
    World.discarded v env now w i h = w := by
  unfold World.discarded; split; rfl

/-- worlds reachable by creating the two clients, updating either of them, restarting the chain and running discarded
    updates, in any interleaving -/
inductive WReach (env : Env) (U : Header → Prop) : World → Prop
  | empty : WReach env U { a := none, b := none }
  | create {w : World} (i : Bool) (g : Header) (chainId trusting : Nat) : WReach env U w → U g →
      WReach env U (w.set i (initState env chainId trusting g))
  | update {w w' : World} {now : Nat} {i : Bool} {c : Header} : WReach env U w → U c →
      World.update .fixed env now w i c = .ok w' → WReach env U w'
  | restart {w : World} : WReach env U w → WReach env U w.restart
  | discarded {w : World} (now : Nat) (i : Bool) (c : Header) : WReach env U w → WReach env U (World.discarded .fixed env now w i c)

/-- every client of a reachable world is in a state reachable by accepted updates of that client alone: all the
    per-client theorems (`accept_sound_reach`, `never_wedged_pruned`, `ancestry_roots_pruned`, `prune_total`) hold in
    histories with a second client, restarts and discarded executions -/
theorem wreach_client {env : Env} {U : Header → Prop} {w : World} (hw : WReach env U w) :
    ∀ i s, w.get i = some s → ∃ g chainId trusting, U g ∧ ReachP env U g chainId trusting s := by
  induction hw with
  | empty => intro i s h; cases i <;> cases h
  | @create w i g chainId trusting _ ug ih =>
    intro j s h
    rcases World.get_set_cases h with ⟨_, rfl⟩ | h
    · exact ⟨g, chainId, trusting, ug, ReachP.init⟩
    · exact ih _ _ h
  | @update w w' now i c _ uc hu ih =>
    intro j s h
    obtain ⟨s0, s1, h0, h1, rfl⟩ := World.update_ok hu
    rcases World.get_set_cases h with ⟨rfl, rfl⟩ | h
    · obtain ⟨g, chainId, trusting, ug, hr⟩ := ih _ _ h0
      exact ⟨g, chainId, trusting, ug, ReachP.step hr uc h1⟩
    · exact ih _ _ h
  | restart _ ih => exact ih
  | discarded now i c _ ih => rw [discarded_identity]; exact ih

/-! ### create / upgrade / toggle proposals: the index invariant of the prune proof, whatever the redundant fields say -/

/-- By definition: `upgradeState` does not read its `_consHeight` argument, as `UpgradeState` in the code ignores the
    proposal's `ConsensusState.Height`; the differential run varies it (equal / unset / lower / higher / other revision). -/
theorem upgradeState_height_irrelevant (env : Env) (s : State) (ci tr : Nat) (h : Header) (ch ch' : Option (Nat × Nat)) :
    upgradeState env s ci tr h ch = upgradeState env s ci tr h ch' := rfl

/-- After an upgrade the two index facts the prune theorem relies on (`Core.key`: header-index
    keys are (hash, HEADER height); `InvP.rm`: the root-main entry of every header at or above the prune line is keyed by the
    header's own (root, height) and points at it) still hold, the new head is indexed under its own height and carries its own
    consensus state — whatever `Height` the proposal's consensus state had -/
theorem upgrade_index_consistent {env : Env} {U : Header → Prop} (hU : UOkP env U) {s : State} {P : Nat}
    (hk : ∀ k h', aget s.hdr k = some h' → k = hkey env h' ∧ U h')
    (hrm : ∀ k h', aget s.hdr k = some h' → P ≤ h'.number → aget s.rootMain (h'.root, h'.number) = some (hkey env h'))
    {h : Header} (uh : U h) (ci tr : Nat) (ch : Option (Nat × Nat)) :
    (∀ k h', aget (upgradeState env s ci tr h ch).hdr k = some h' → k = hkey env h' ∧ U h') ∧
    (∀ k h', aget (upgradeState env s ci tr h ch).hdr k = some h' → P ≤ h'.number →
        aget (upgradeState env s ci tr h ch).rootMain (h'.root, h'.number) = some (hkey env h')) ∧
    aget (upgradeState env s ci tr h ch).hdr (hkey env h) = some h ∧
    aget (upgradeState env s ci tr h ch).rootMain (h.root, h.number) = some (hkey env h) ∧
    aget (upgradeState env s ci tr h ch).cons h.number = some (consOf h) ∧ (upgradeState env s ci tr h ch).head = h := by
  -- header index and root-main index of the upgraded state are those of `store env s h`
  exact ⟨store_key hk uh, store_rm hU hk hrm uh, store_stored s h, aget_aset_self _ _ _, aget_aset_self _ _ _, rfl⟩

/-- creation and toggle (store cleared, then `Initialize` + keeper writes) establish the full invariant of the prune proof -/
theorem create_invP {env : Env} {U : Header → Prop} (hU : UOkP env U) {g : Header} (ug : U g) {ci tr : Nat} {s : State}
    (h : createClient env ci tr g = .ok s) : InvP env U g.number s g.number [] := by
  unfold createClient at h
  obtain ⟨_, h⟩ := ite_err_eq_ok.mp h
  obtain ⟨_, h⟩ := ite_err_eq_ok.mp h
  cases h; exact init_invP hU ug ci tr

theorem toggle_invP {env : Env} {U : Header → Prop} (hU : UOkP env U) {g : Header} (ug : U g) {other : Bool} {ci tr : Nat}
    {ch : Option (Nat × Nat)} {s : State} (h : toggleClient env other ci tr g ch = .ok s) : InvP env U g.number s g.number [] := by
  unfold toggleClient at h
  exact create_invP hU ug (ite_err_eq_ok.mp h).2

/-! ### concrete witness: a fork below the prune line is rejected although its parent is still in the index -/

def pB1 := wChild wG 202 602 12     -- side branch, never pruned
def pA1 := wChild wG 201 601 10
def pA2 := wChild pA1 203 603 10
def pA3 := wChild pA2 204 604 10
def pA4 := wChild pA3 205 605 10
def pB2 := wChild pB1 206 606 40    -- rule-abiding child of the stored pB1: fork point G, below the prune line
def pC3 := wChild pA2 207 607 25    -- rule-abiding child of pA2: fork at the prune line

def wrunT (v : Variant) (s : State) : List (Header × Nat) → Option State
  | [] => some s
  | (h, now) :: hs => match updateClient v wenv now s h with
    | .ok s' => wrunT v s' hs
    | _ => none

/-- trusting period 50 s; header times 1000, 1010, … -/
def pInit : State := initState wenv 4 50 wG
def pHist : List (Header × Nat) := [(pB1, 1015), (pA1, 1015), (pA2, 1025), (pA3, 1035), (pA4, 1055)]

/-- the store reached by `pHist`, in the notation of `wState`; the last update has pruned G -/
def pS5 : State := wState [pA4, pA3, pA2, pA1, pB1] [pA4, pA3, pA2, pA1, pB1] [pA4, pA3, pA2, pA1] pA4 50
/-- … and after the update with C3 at time 1065, which prunes A1 -/
def pS6 : State := wState [pC3, pA4, pA3, pA2, pB1] [pC3, pA4, pA3, pA2, pB1] [pC3, pA4, pA2] pC3 50

theorem prun5 : wrunT .fixed pInit pHist = some pS5 := by decide +kernel

/-- known finding `C10:valid-child-rejected:fork-below-prune-line` on the repaired client: after G←B1, G←A1←A2←A3←A4
    (G pruned at the last update) the update with B2 at time 1065 prunes A1 and then cannot walk the head's branch down to
    the fork point G: the rule-abiding child B2 of the STILL STORED header B1 is rejected by the active client … -/
theorem below_line_rejected : ∃ s, wrunT .fixed pInit pHist = some s ∧ Stored wenv s pB1 ∧ active s 1065 = true ∧
    checkValidity wenv s 1065 pB2 = .ok ∧ updateClient .fixed wenv 1065 s pB2 = .err "rc-cur-parent" := by
  refine ⟨pS5, prun5, ?_, ?_, ?_, ?_⟩ <;> decide +kernel

/-- … while a child forking at the prune line is accepted in the same state (the prune pass of that update included). -/
theorem at_line_accepted : ∃ s s', wrunT .fixed pInit pHist = some s ∧ updateClient .fixed wenv 1065 s pC3 = .ok s' ∧
    s'.head = pC3 ∧ minKey s.cons = some 11 ∧ minKey s'.cons = some 12 := by
  refine ⟨pS5, pS6, prun5, ?_, rfl, ?_, ?_⟩ <;> decide +kernel

def pU (h : Header) : Prop := h ∈ [wG, pB1, pA1, pA2, pA3, pA4, pB2, pC3]
instance : DecidablePred pU := fun h => by unfold pU; infer_instance

theorem UOkP.of_list {env : Env} {L : List Header} (h1 : ∀ a ∈ L, ∀ b ∈ L, env.hash a = env.hash b → a = b)
    (h2 : ∀ a ∈ L, a.number < two63) (h3 : ∀ a ∈ L, ∀ b ∈ L, a.number = b.number → a.root = b.root → a = b) :
    UOkP env (fun h => h ∈ L) :=
  ⟨UOk.of_list h1 h2, fun a b ha hb => h3 a ha b hb⟩

theorem pU_ok : UOkP wenv pU := UOkP.of_list (by decide +kernel) (by decide +kernel) (by decide +kernel)

theorem reachP_wrunT {U : Header → Prop} {g : Header} {ci tr : Nat} (hs : List (Header × Nat)) (s s' : State)
    (hr : ReachP wenv U g ci tr s) (hu : ∀ x ∈ hs, U x.1) (h : wrunT .fixed s hs = some s') : ReachP wenv U g ci tr s' := by
  induction hs generalizing s with
  | nil => obtain rfl : s = s' := Option.some.inj h; exact hr
  | cons x hs ih =>
    unfold wrunT at h
    split at h
    · rename_i s1 hc
      exact ih s1 (ReachP.step hr (hu x List.mem_cons_self) hc) (fun y hy => hu y (List.mem_cons_of_mem _ hy)) h
    · cases h

/-- the witness state is reachable (hypotheses of the theorems above are satisfiable on a history with pruning) -/
theorem pReach : ∃ s, wrunT .fixed pInit pHist = some s ∧ ReachP wenv pU wG 4 50 s :=
  ⟨pS5, prun5, reachP_wrunT _ _ _ ReachP.init (by decide +kernel) prun5⟩

/-- hence the property as literally stated ("a valid child of ANY stored header is accepted") is false across pruning,
    also for the repaired `RestrictChain` -/
theorem never_wedged_literal_false :
    ¬ (∀ (s : State) (now : Nat) (p c : Header), ReachP wenv pU wG 4 50 s → pU c → Stored wenv s p →
        ValidChild wenv s.chainId now p c → active s now = true → ∃ s', updateClient .fixed wenv now s c = .ok s') := by
  intro h
  obtain ⟨s, hs, hr⟩ := pReach
  obtain ⟨s0, hs0, h1, h2, _, h4⟩ := below_line_rejected
  obtain rfl : pS5 = s := Option.some.inj (prun5.symm.trans hs)
  obtain rfl : pS5 = s0 := Option.some.inj (prun5.symm.trans hs0)
  have hv : ValidChild wenv 4 1065 pB1 pB2 := by
    refine ⟨?_, ?_, ?_, ?_, ?_, ?_, ?_, ?_, fun hc => absurd rfl hc⟩ <;> decide +kernel
  obtain ⟨s', h5⟩ := h pS5 1065 pB1 pB2 hr (by decide +kernel) h1 hv h2
  rw [h4] at h5; cases h5

end TM.Eth
