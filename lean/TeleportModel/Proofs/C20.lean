import TeleportModel.Model.Vesting
/-
C20 — reward vesting releases min(reward, remaining) and conserves supply.
-/
namespace TM.Vesting

structure Valid (cs : Coins) : Prop where
  nodup : (cs.map (·.1)).Nodup
  nonneg : ∀ c ∈ cs, 0 ≤ c.2
  denoms : ∀ c ∈ cs, validDenom c.1 = true

theorem Valid.tail {c : Denom × Int} {cs : Coins} (h : Valid (c :: cs)) : Valid cs :=
  ⟨(List.nodup_cons.mp h.nodup).2, (List.forall_mem_cons.mp h.nonneg).2, (List.forall_mem_cons.mp h.denoms).2⟩

theorem amountOf_cons (d' : Denom) (a : Int) (rest : Coins) (d : Denom) :
    amountOf ((d', a) :: rest) d = (if d' = d then a else 0) + amountOf rest d := by
  rw [amountOf]
  by_cases h : d' = d
  · rw [if_pos h, if_pos h]
  · rw [if_neg h, if_neg h, Int.zero_add]

theorem amountOf_notin (cs : Coins) (d : Denom) (h : d ∉ cs.map (·.1)) : amountOf cs d = 0 := by
  induction cs with
  | nil => rfl
  | cons c rest ih =>
    obtain ⟨h1, h2⟩ := not_or.mp fun hm => h (List.mem_cons.mpr hm)
    simp only [amountOf, if_neg (Ne.symm h1), ih h2]

theorem amountOf_nonneg (cs : Coins) (h : ∀ c ∈ cs, 0 ≤ c.2) (d : Denom) : 0 ≤ amountOf cs d := by
  induction cs with
  | nil => exact Int.le_refl 0
  | cons c rest ih =>
    obtain ⟨hc, h⟩ := List.forall_mem_cons.mp h
    simp only [amountOf]
    split
    · exact Int.add_nonneg hc (ih h)
    · exact ih h

theorem amountOf_ge_mem (cs : Coins) (h : ∀ c ∈ cs, 0 ≤ c.2) : ∀ c ∈ cs, c.2 ≤ amountOf cs c.1 := by
  induction cs with
  | nil => intro c hc; cases hc
  | cons x rest ih =>
    obtain ⟨hx, hrest⟩ := List.forall_mem_cons.mp h
    intro c hc
    simp only [amountOf]
    rcases List.mem_cons.mp hc with rfl | hc
    · rw [if_pos rfl]
      exact Int.le_add_of_nonneg_right (amountOf_nonneg rest hrest c.1)
    · split
      · exact Int.le_trans (ih hrest c hc) (Int.le_add_of_nonneg_left hx)
      · exact ih hrest c hc

theorem addCoin_nil (d : Denom) (a : Int) : addCoin [] d a = if a = 0 then [] else [(d, a)] := rfl

theorem addCoin_cons (c : Denom × Int) (rest : Coins) (d : Denom) (a : Int) :
    addCoin (c :: rest) d a =
      if c.1 = d then (if c.2 + a = 0 then rest else (c.1, c.2 + a) :: rest) else c :: addCoin rest d a := rfl

theorem ite_add_ite (c : Prop) [Decidable c] (a b : Int) :
    (if c then a else 0) + (if c then b else 0) = if c then a + b else 0 := by
  by_cases h : c
  · rw [if_pos h, if_pos h, if_pos h]
  · rw [if_neg h, if_neg h, if_neg h]; rfl

theorem amountOf_addCoin (cs : Coins) (d : Denom) (a : Int) (x : Denom) :
    amountOf (addCoin cs d a) x = amountOf cs x + (if d = x then a else 0) := by
  induction cs with
  | nil =>
    rw [addCoin_nil]
    by_cases h : a = 0
    · rw [if_pos h, h, ite_self]; rfl
    · rw [if_neg h, amountOf_cons]; exact Int.add_comm _ _
  | cons c rest ih =>
    obtain ⟨d', a'⟩ := c
    rw [addCoin_cons, amountOf_cons]
    by_cases hd : d' = d
    -- same denomination: the two listed amounts merge, and a zero sum is dropped from the list
    · subst hd
      rw [if_pos rfl, Int.add_right_comm, ite_add_ite]
      by_cases hz : a' + a = 0
      · rw [if_pos hz, hz, ite_self, Int.zero_add]
      · rw [if_neg hz, amountOf_cons]
    · rw [if_neg hd, amountOf_cons, ih, Int.add_assoc]

theorem addCoin_pos (cs : Coins) (d : Denom) (a : Int) (ha : 0 ≤ a)
    (h : ∀ c ∈ cs, 0 < c.2) : ∀ c ∈ addCoin cs d a, 0 < c.2 := by
  induction cs with
  | nil =>
    rw [addCoin_nil]
    by_cases h0 : a = 0
    · rw [if_pos h0]; exact fun c hc => nomatch hc
    · rw [if_neg h0]
      intro c hc
      cases List.mem_singleton.mp hc
      exact Int.lt_iff_le_and_ne.mpr ⟨ha, Ne.symm h0⟩
  | cons c rest ih =>
    obtain ⟨hc, hrest⟩ := List.forall_mem_cons.mp h
    rw [addCoin_cons]
    by_cases hd : c.1 = d
    · rw [if_pos hd]
      by_cases hz : c.2 + a = 0
      · rw [if_pos hz]; exact hrest
      · rw [if_neg hz]
        exact List.forall_mem_cons.mpr ⟨Int.add_pos_of_pos_of_nonneg hc ha, hrest⟩
    · rw [if_neg hd]
      exact List.forall_mem_cons.mpr ⟨hc, ih hrest⟩

theorem addCoin_nodup (cs : Coins) (d : Denom) (a : Int)
    (h : (cs.map (·.1)).Nodup) : ((addCoin cs d a).map (·.1)).Nodup ∧
      (∀ x, x ∈ (addCoin cs d a).map (·.1) → x = d ∨ x ∈ cs.map (·.1)) := by
  induction cs with
  | nil =>
    rw [addCoin_nil]
    by_cases h0 : a = 0
    · rw [if_pos h0]; exact ⟨List.nodup_nil, fun x hx => nomatch hx⟩
    · rw [if_neg h0]; exact ⟨List.pairwise_singleton _ d, fun x hx => Or.inl (List.mem_singleton.mp hx)⟩
  | cons c rest ih =>
    obtain ⟨hc, hrest⟩ := List.nodup_cons.mp h
    obtain ⟨ih1, ih2⟩ := ih hrest
    rw [addCoin_cons]
    by_cases hd : c.1 = d
    · rw [if_pos hd]
      by_cases hz : c.2 + a = 0
      · rw [if_pos hz]; exact ⟨hrest, fun x hx => Or.inr (List.mem_cons_of_mem _ hx)⟩
      · rw [if_neg hz]; exact ⟨h, fun x hx => Or.inr hx⟩
    · rw [if_neg hd]
      exact ⟨List.nodup_cons.mpr ⟨fun hm => (ih2 _ hm).elim hd hc, ih1⟩,
        List.forall_mem_cons.mpr ⟨Or.inr List.mem_cons_self, fun x hx => (ih2 x hx).imp_right (List.mem_cons_of_mem _)⟩⟩

theorem isZeroCoins_amountOf (v : Coins) (h : isZeroCoins v = true) (d : Denom) : amountOf v d = 0 := by
  induction v with
  | nil => rfl
  | cons x rest ih =>
    obtain ⟨hx, hr⟩ := Bool.and_eq_true_iff.mp (List.all_cons.symm.trans h)
    simp only [amountOf, of_decide_eq_true hx, ih hr, Int.add_zero, ite_self]

/-- One turn of the `BeginBlocker` loop on a validated entry: whichever of its three branches runs, the accumulator
gains `min reward remaining` of that denomination and stays positive. -/
theorem vestLoop_cons (pool : Denom → Int) (d : Denom) (a : Int) (rest acc : Coins) (hd : validDenom d = true)
    (ha : 0 ≤ a) (hp : 0 ≤ pool d) (hpos : ∀ c ∈ acc, 0 < c.2) :
    ∃ acc', vestLoop pool ((d, a) :: rest) acc = vestLoop pool rest acc' ∧ (∀ c ∈ acc', 0 < c.2) ∧
      ∀ x, amountOf acc' x = amountOf acc x + (if d = x then min a (pool d) else 0) := by
  simp only [vestLoop, hd, Bool.not_true, Bool.false_eq_true, if_false]
  by_cases h0 : pool d = 0
  · rw [if_pos h0]
    exact ⟨acc, rfl, hpos, fun x => by rw [h0, Int.min_eq_right ha, ite_self, Int.add_zero]⟩
  · rw [if_neg h0]
    by_cases hlt : pool d < a
    · rw [if_pos hlt]
      exact ⟨_, rfl, addCoin_pos acc d _ hp hpos, fun x => by rw [amountOf_addCoin, Int.min_eq_right (Int.le_of_lt hlt)]⟩
    · rw [if_neg hlt]
      exact ⟨_, rfl, addCoin_pos acc d _ ha hpos, fun x => by rw [amountOf_addCoin, Int.min_eq_left (Int.not_lt.mp hlt)]⟩

theorem vestLoop_spec (pool : Denom → Int) (hp : ∀ d, 0 ≤ pool d) (cs acc : Coins) (hv : Valid cs)
    (hpos : ∀ c ∈ acc, 0 < c.2) :
    ∃ v, vestLoop pool cs acc = some v ∧ (∀ c ∈ v, 0 < c.2) ∧
      ∀ d, amountOf v d = amountOf acc d + min (amountOf cs d) (pool d) := by
  induction cs generalizing acc with
  | nil => exact ⟨acc, rfl, hpos, fun d => by rw [amountOf, Int.min_eq_left (hp d), Int.add_zero]⟩
  | cons c rest ih =>
    obtain ⟨d0, a0⟩ := c
    obtain ⟨acc', h1, hpos', hamt⟩ := vestLoop_cons pool d0 a0 rest acc (hv.denoms (d0, a0) List.mem_cons_self)
      (hv.nonneg (d0, a0) List.mem_cons_self) (hp d0) hpos
    obtain ⟨v, hv1, hv2, hv3⟩ := ih acc' hv.tail hpos'
    refine ⟨v, h1.trans hv1, hv2, fun d => ?_⟩
    rw [hv3, hamt, amountOf_cons]
    by_cases hd : d0 = d
    -- the denomination just processed is not listed again (`nodup`), so the rest of the loop adds nothing to it
    · subst hd
      rw [if_pos rfl, if_pos rfl, amountOf_notin rest d0 (List.nodup_cons.mp hv.nodup).1, Int.min_eq_left (hp d0),
        Int.add_zero, Int.add_zero]
    · rw [if_neg hd, if_neg hd, Int.add_zero, Int.zero_add]

abbrev rewardOf (s : State) (d : Denom) : Int := amountOf s.reward d

/-- **moves_min** — with validated parameters and vesting enabled, `BeginBlocker` does not panic and
    moves exactly `min (per-block reward) (remaining pool)` of every denomination from the pool to the
    fee collector; nothing else is part of the state. -/
theorem moves_min (s : State) (hen : s.enabled = true) (hv : Valid s.reward) (hp : ∀ d, 0 ≤ s.pool d) :
    ∃ s', beginBlock s = .ok s' ∧ s'.enabled = s.enabled ∧ s'.reward = s.reward ∧
      ∀ d, s'.pool d = s.pool d - min (rewardOf s d) (s.pool d) ∧
           s'.fee d = s.fee d + min (rewardOf s d) (s.pool d) := by
  obtain ⟨v, hv1, hv2, hv3⟩ := vestLoop_spec s.pool hp s.reward [] hv (fun c hc => nomatch hc)
  have hamt : ∀ d, amountOf v d = min (rewardOf s d) (s.pool d) := fun d => (hv3 d).trans (Int.zero_add _)
  simp only [beginBlock, hen, Bool.not_true, Bool.false_eq_true, if_false, hv1]
  by_cases hz : isZeroCoins v = true
  · rw [if_pos hz]
    refine ⟨s, rfl, hen, rfl, fun d => ?_⟩
    rw [← hamt d, isZeroCoins_amountOf v hz d]
    exact ⟨(Int.sub_zero _).symm, (Int.add_zero _).symm⟩
  · have hcs : canSend s.pool v = true := by
      simp only [canSend, List.all_eq_true, Bool.and_eq_true, decide_eq_true_eq]
      intro c hc
      have := amountOf_ge_mem v (fun c hc => Int.le_of_lt (hv2 c hc)) c hc
      exact ⟨hv2 c hc, Int.le_trans this (hamt c.1 ▸ Int.min_le_right _ _)⟩
    rw [if_neg hz, if_pos hcs]
    exact ⟨applySend s v, rfl, hen, rfl, fun d => by simp only [applySend, hamt d, and_self]⟩

/-- **idle (disabled)** — vesting disabled ⇒ nothing moves. -/
theorem idle_disabled (s : State) (h : s.enabled = false) : beginBlock s = .ok s := by
  simp [beginBlock, h]

theorem beginBlock_moves (s : State) (hv : Valid s.reward) (hp : ∀ d, 0 ≤ s.pool d) :
    ∃ s', beginBlock s = .ok s' ∧ s'.reward = s.reward ∧
      ∀ d, s'.pool d + s'.fee d = s.pool d + s.fee d ∧ 0 ≤ s'.pool d ∧ s'.pool d ≤ s.pool d := by
  cases hen : s.enabled with
  | false => exact ⟨s, idle_disabled s hen, rfl, fun d => ⟨rfl, hp d, Int.le_refl _⟩⟩
  | true =>
    obtain ⟨s', h1, _, h2, h3⟩ := moves_min s hen hv hp
    refine ⟨s', h1, h2, fun d => ?_⟩
    have hm : 0 ≤ min (rewardOf s d) (s.pool d) := Int.le_min.mpr ⟨amountOf_nonneg s.reward hv.nonneg d, hp d⟩
    rw [(h3 d).1, (h3 d).2, Int.add_comm (s.fee d), ← Int.add_assoc, Int.sub_add_cancel]
    exact ⟨rfl, Int.sub_nonneg.mpr (Int.min_le_right _ _), Int.sub_le_self _ hm⟩

/-- **no_panic** (shared with C15): validated parameters never make `BeginBlocker` panic. -/
theorem no_panic (s : State) (hv : Valid s.reward) (hp : ∀ d, 0 ≤ s.pool d) :
    (beginBlock s).isPanic = false := by
  obtain ⟨s', h, _⟩ := beginBlock_moves s hv hp
  rw [h]; rfl

/-- **idle (empty pool)** — pool empty ⇒ balances unchanged. -/
theorem idle_empty (s : State) (hv : Valid s.reward) (hp : ∀ d, s.pool d = 0) :
    ∃ s', beginBlock s = .ok s' ∧ ∀ d, s'.pool d = s.pool d ∧ s'.fee d = s.fee d := by
  obtain ⟨s', h1, _, h2⟩ := beginBlock_moves s hv (fun d => Int.le_of_eq (hp d).symm)
  refine ⟨s', h1, fun d => ?_⟩
  obtain ⟨h3, h4, h5⟩ := h2 d
  have hp' : s'.pool d = s.pool d := Int.le_antisymm h5 (hp d ▸ h4)
  rw [hp'] at h3
  exact ⟨hp', Int.add_left_cancel h3⟩

/-- **supply_conserved / pool_nonneg** — pool + fee collector is constant per denomination and the
    pool never goes negative. -/
theorem supply_conserved (s : State) (hv : Valid s.reward) (hp : ∀ d, 0 ≤ s.pool d) :
    ∃ s', beginBlock s = .ok s' ∧ ∀ d, s'.pool d + s'.fee d = s.pool d + s.fee d ∧ 0 ≤ s'.pool d :=
  let ⟨s', h1, _, h2⟩ := beginBlock_moves s hv hp
  ⟨s', h1, fun d => ⟨(h2 d).1, (h2 d).2.1⟩⟩

/-- `validatePerBlockReward` establishes exactly the hypothesis the theorems need. -/
theorem validate_valid (es : List Entry) (h : validate es = true) : Valid (stored es) := by
  simp only [validate, Bool.and_eq_true, List.all_eq_true, decide_eq_true_eq] at h
  obtain ⟨⟨_, hall⟩, hnd⟩ := h
  refine ⟨?_, List.forall_mem_map.mpr fun e he => ?_, List.forall_mem_map.mpr fun e he => (hall e he).1.2⟩
  · simpa [stored, List.map_map, Function.comp_def] using hnd
  · have := (hall e he).2
    cases ha : e.amount with
    | none => rw [ha] at this; cases this
    | some a => rw [ha] at this; exact of_decide_eq_true this

inductive Op where
  | reward (es : List Entry)
  | enable (b : Bool)
  | fund (d : Denom) (a : Nat)
  | block
  | restart      -- export of the module's genesis, validation, re-import (the pool is bank state and stays)
  | discarded    -- a BeginBlock executed on a context that is then dropped (simulation, failed transaction)

def stepOp (s : State) : Op → Outcome State
  | .reward es => (match setReward s es with | .ok s' => .ok s' | _ => .ok s)   -- rejected change: state kept
  | .enable b => .ok { s with enabled := b }
  | .fund d a => .ok (fund s d a)
  | .block => beginBlock s
  | .restart => .ok s
  | .discarded => .ok s

def runOps : State → List Op → Outcome State
  | s, [] => .ok s
  | s, o :: os => match stepOp s o with
    | .ok s' => runOps s' os
    | .err e => .err e
    | .panic p => .panic p

def Inv (s : State) : Prop := Valid s.reward ∧ ∀ d, 0 ≤ s.pool d

theorem init_inv : Inv init :=
  ⟨validate_valid [⟨"atele", some 100000000000000000⟩] (by decide +kernel), fun _ => Int.le_refl 0⟩

theorem stepOp_inv (s : State) (o : Op) (h : Inv s) : ∃ s', stepOp s o = .ok s' ∧ Inv s' := by
  cases o with
  | reward es =>
    simp only [stepOp, setReward]
    cases hv : validate es with
    | true => exact ⟨_, rfl, validate_valid es hv, h.2⟩
    | false => exact ⟨s, rfl, h⟩
  | fund d a =>
    refine ⟨_, rfl, h.1, fun d' => ?_⟩
    simp only [fund]
    split
    · exact Int.add_nonneg (h.2 d') (Int.natCast_nonneg a)
    · exact h.2 d'
  | block =>
    obtain ⟨s', h1, h2, h3⟩ := beginBlock_moves s h.1 h.2
    exact ⟨s', h1, h2 ▸ h.1, fun d => (h3 d).2.1⟩
  | _ => exact ⟨_, rfl, h⟩

/-- **restart_identity** — exporting and re-importing the module, and executions that are discarded, leave the
    state the property talks about (parameters, pool, fee collector) unchanged; histories may contain them anywhere
    (`over_blocks`, `every_block_moves_min` range over `Op`, which has both constructors). -/
theorem restart_identity (s : State) : stepOp s .restart = .ok s ∧ stepOp s .discarded = .ok s := ⟨rfl, rfl⟩

theorem runOps_cons (s : State) (o : Op) (os : List Op) :
    runOps s (o :: os) = stepOp s o >>= fun s' => runOps s' os := by
  rw [runOps]
  cases stepOp s o <;> rfl

theorem restarts_invisible (ops : List Op) (s : State) :
    runOps s ops = runOps s (ops.filter (fun o => match o with | .restart => false | .discarded => false | _ => true)) := by
  induction ops generalizing s with
  | nil => rfl
  | cons o os ih =>
    cases o with
    | restart => exact ih s
    | discarded => exact ih s
    | _ => simp only [List.filter, runOps_cons, ← ih]

/-- **over_blocks** — every history of parameter changes (validated the way the chain validates them),
    funding and blocks, of any length, runs without panic and keeps the invariant under which
    `moves_min`, `idle_*` and `supply_conserved` apply to every single block of it. -/
theorem over_blocks (ops : List Op) : ∀ s, Inv s → ∃ s', runOps s ops = .ok s' ∧ Inv s' := by
  induction ops with
  | nil => intro s h; exact ⟨s, rfl, h⟩
  | cons o os ih =>
    intro s h
    obtain ⟨s1, h1, hi⟩ := stepOp_inv s o h
    obtain ⟨s2, h2, hi2⟩ := ih s1 hi
    exact ⟨s2, by rw [runOps_cons, h1]; exact h2, hi2⟩

/-- **every_block_moves_min** — in every history (any prefix `pre` of parameter changes, funding, toggles
    and blocks, of any length, from the initial state or any state satisfying the invariant), the next block
    moves exactly `min (reward) (remaining)` per denomination when vesting is on and nothing when it is off. -/
theorem every_block_moves_min (pre : List Op) (s : State) (h : Inv s) :
    ∃ s1 s2, runOps s pre = .ok s1 ∧ beginBlock s1 = .ok s2 ∧
      ∀ d, (s1.enabled = true →
              s2.pool d = s1.pool d - min (rewardOf s1 d) (s1.pool d) ∧
              s2.fee d = s1.fee d + min (rewardOf s1 d) (s1.pool d)) ∧
           (s1.enabled = false → s2.pool d = s1.pool d ∧ s2.fee d = s1.fee d) ∧
           s2.pool d + s2.fee d = s1.pool d + s1.fee d ∧ 0 ≤ s2.pool d := by
  obtain ⟨s1, h1, hi⟩ := over_blocks pre s h
  obtain ⟨s2, h2, h3⟩ := supply_conserved s1 hi.1 hi.2
  refine ⟨s1, s2, h1, h2, fun d => ⟨?_, ?_, (h3 d).1, (h3 d).2⟩⟩
  · intro hen
    obtain ⟨s2', h2', _, _, h4⟩ := moves_min s1 hen hi.1 hi.2
    cases h2.symm.trans h2'
    exact h4 d
  · intro hdis
    cases h2.symm.trans (idle_disabled s1 hdis)
    exact ⟨rfl, rfl⟩

/-- A concrete validated parameter set with two denominations and a pool that runs dry on one. -/
def exState : State :=
  { enabled := true, reward := [("atele", 5), ("uatom", 5)],
    pool := fun d => if d = "atele" then 7 else if d = "uatom" then 3 else 0, fee := fun _ => 0 }

example : exState.enabled = true ∧ Valid exState.reward ∧ ∀ d, 0 ≤ exState.pool d := by
  refine ⟨rfl, validate_valid [⟨"atele", some 5⟩, ⟨"uatom", some 5⟩] (by decide +kernel), fun d => ?_⟩
  simp only [exState]
  split
  · decide
  · split <;> decide

example : validate [⟨"atele", some 5⟩, ⟨"uatom", some 0⟩] = true := by decide +kernel
example : validate [⟨"atele", some 5⟩, ⟨"atele", some 5⟩] = false := by decide +kernel
example : validate [⟨"A B", some 1⟩] = false := by decide +kernel
example : validate [⟨"atele", none⟩] = false := by decide +kernel

end TM.Vesting
