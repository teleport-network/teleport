import TeleportModel.Lemmas.Xibc
import TeleportModel.Proofs.C08
/-
C02 — authenticity of receives and acknowledgements.

`recv_authentic` holds for every `Env`, `ack_authentic` for every `Env` whose sha256 never returns the empty string
(an absent commitment reads as `[]`). The contrapositive statements (`altered_rejected…`)
need the explicit assumptions
  * `MembershipSound env S`  — the client's membership verifier accepts only what the counterparty state with
    that root really maps the path to (ICS-23 / MPT soundness; `S` is the abstract "stored" relation),
  * `S` functional per (client, root, path), and
  * collision-freeness of the packet commitment sha256 ∘ ABIPack (`CommitInj`).
TSS clients are outside: for them acceptance rests on `proof = signer = TssAddress` (C06), which the theorems
state explicitly as the other disjunct.
-/
namespace TM.Xibc

/-- the delay check of the client kind (`verifyDelayPeriodPassed` for Tendermint, block delay for BSC/ETH) -/
def DelayPassed (cl : Client) (now : UInt64) (h : Height) : Prop :=
  match cl.kind with
  | .tm => ∃ pt, cl.processed.get h = some pt ∧ pt + cl.delayTime ≤ now
  | .tss => True
  | _ => ¬ (cl.latest.h < h.h) ∧ cl.delayBlock ≤ cl.latest.h - h.h   -- block numbers: no wrap in the subtraction

/-- what a successful `VerifyPacketCommitment` / `VerifyPacketAcknowledgement` established -/
def Verified (env : Env) (name : Bytes) (cl : Client) (now : UInt64) (h : Height) (proof path value : Bytes) : Prop :=
  (cl.kind = .tss ∧ proof = cl.tssAddr) ∨
  (cl.kind ≠ .tss ∧ cl.latest.lt h = false ∧ ∃ root, cl.cons.get h = some root ∧ DelayPassed cl now h ∧
    env.verify name cl.kind root proof path value = true)

theorem verify_true {env : Env} {name : Bytes} {cl : Client} {now : UInt64} {h : Height} {proof path value : Bytes}
    (hv : cl.verify env name now h proof path value = true) : Verified env name cl now h proof path value := by
  unfold Client.verify at hv
  cases hk : cl.kind with
  | tss => rw [hk] at hv; exact Or.inl ⟨hk, bytes_beq.1 hv⟩
  | tm =>
    rw [hk] at hv
    simp only [Bool.and_eq_true, Bool.not_eq_true'] at hv
    obtain ⟨hl, hm⟩ := hv
    cases hc : cl.cons.get h with
    | none => rw [hc] at hm; cases hm
    | some root =>
      cases hp : cl.processed.get h with
      | none => rw [hc, hp] at hm; cases hm
      | some pt =>
        simp only [hc, hp, Bool.and_eq_true, decide_eq_true_eq] at hm
        exact Or.inr ⟨by rw [hk]; decide, hl, root, hc, by simp only [DelayPassed, hk]; exact ⟨pt, hp, hm.1⟩, hk ▸ hm.2⟩
  | bsc | eth =>
    rw [hk] at hv
    simp only [Bool.and_eq_true, Bool.not_eq_true', decide_eq_false_iff_not] at hv
    obtain ⟨⟨hl, hlt⟩, hm⟩ := hv
    cases hc : cl.cons.get h with
    | none => rw [hc] at hm; cases hm
    | some root =>
      simp only [hc, Bool.and_eq_true, decide_eq_true_eq] at hm
      exact Or.inr ⟨by rw [hk]; decide, hl, root, hc, by simp only [DelayPassed, hk]; exact ⟨hlt, hm.1⟩, hk ▸ hm.2⟩

theorem Verified.light {env : Env} {name : Bytes} {cl : Client} {now : UInt64} {h : Height} {proof path value : Bytes}
    (hv : Verified env name cl now h proof path value) (hk : cl.kind ≠ .tss) :
    ∃ root, cl.cons.get h = some root ∧ env.verify name cl.kind root proof path value = true := by
  rcases hv with ⟨ht, _⟩ | ⟨_, _, root, hroot, _, hver⟩
  · exact absurd ht hk
  · exact ⟨root, hroot, hver⟩

/-- **recv_authentic**: an accepted receive decoded without error to a packet `p` for whose source chain a client
exists that — against a consensus state it holds at exactly the stated proof height, not above its latest height,
after the delay period — verified membership of sha256(ABIPack p) under exactly the commitment path of
(p.src, p.dst, p.seq) (or, for a TSS client, the signer is the TSS address). -/
theorem recv_authentic (env : Env) (c : Chain) (now : UInt64) (pk pf : Bytes) (h : Height) (s : Bytes) (cb : Callback)
    (hok : (deliver env c now (.recvPacket pk pf h s cb)).2 = .ok) :
    (env.decodePacket pk).2 = false ∧
    ∃ cl, c.clients.get (env.decodePacket pk).1.src = some cl ∧
      Verified env (env.decodePacket pk).1.src cl now h (cl.effProof s pf)
        (commitKey (env.decodePacket pk).1) (env.sha256 (env.encodePacket (env.decodePacket pk).1)) := by
  have eff := handle_recv_effect (deliver_ok_handle hok)
  have hb := eff.basic
  simp only [recvBasic, Bool.and_eq_true, Bool.not_eq_true'] at hb
  obtain ⟨cl, hcl, hv⟩ := eff.verified
  exact ⟨hb.1.2, cl, hcl, verify_true hv⟩

/-- the decode quirk of Keeper.RecvPacket (`err != nil && packet.Sequence == 0`) is unreachable through message
delivery: MsgRecvPacket.ValidateBasic already rejects every packet whose decoding reports an error. -/
theorem decode_quirk_unreachable (env : Env) (c : Chain) (now : UInt64) (pk pf : Bytes) (h : Height) (s : Bytes)
    (cb : Callback) (hd : (env.decodePacket pk).2 = true) :
    deliver env c now (.recvPacket pk pf h s cb) = (c, .err) := by
  refine deliver_rejected fun hok => ?_
  have := (recv_authentic env c now pk pf h s cb hok).1
  rw [hd] at this; cases this

/-- **ack_authentic**: an accepted acknowledgement decoded to a packet `p` whose commitment this chain still holds —
the stored bytes equal sha256(ABIPack p) — and the client for p.dst verified membership of sha256(ack bytes) under
exactly the acknowledgement path of (p.src, p.dst, p.seq). -/
theorem ack_authentic (env : Env) (hne : ∀ b, env.sha256 b ≠ []) (c : Chain) (now : UInt64) (pk ak pf : Bytes)
    (h : Height) (s : Bytes) (o : EvmOut)
    (hok : (deliver env c now (.acknowledgement pk ak pf h s o)).2 = .ok) :
    (env.decodePacket pk).2 = false ∧
    c.commits.get (commitKey (env.decodePacket pk).1) = some (env.sha256 (env.encodePacket (env.decodePacket pk).1)) ∧
    ∃ cl, c.clients.get (env.decodePacket pk).1.dst = some cl ∧
      Verified env (env.decodePacket pk).1.dst cl now h (cl.effProof s pf)
        (ackKey (env.decodePacket pk).1) (env.sha256 ak) := by
  have eff := handle_ack_effect (deliver_ok_handle hok)
  have hb := eff.basic
  simp only [ackBasic, Bool.and_eq_true, Bool.not_eq_true'] at hb
  obtain ⟨cl, hcl, hv⟩ := eff.verified
  exact ⟨hb.1.2, Tab.get_of_getD eff.committed (hne _), cl, hcl, verify_true hv⟩

/-- **rejected_unchanged**: every message that is not accepted leaves the whole state as it was. -/
theorem rejected_unchanged (env : Env) (c : Chain) (now : UInt64) (m : Msg) (h : (deliver env c now m).2 ≠ .ok) :
    (deliver env c now m).1 = c := deliver_err_unchanged h

/-- **tss_recv_needs_tss_signer**: a receive verified by a TSS client is accepted only if the message signer is the
client's TSS address — whatever the proof field contains (empty, the public TSS address, anything). -/
theorem tss_recv_needs_tss_signer (env : Env) (c : Chain) (now : UInt64) (pk pf : Bytes) (h : Height) (s : Bytes)
    (cb : Callback) (cl : Client) (hcl : c.clients.get (env.decodePacket pk).1.src = some cl) (hk : cl.kind = .tss)
    (hok : (deliver env c now (.recvPacket pk pf h s cb)).2 = .ok) : s = cl.tssAddr := by
  obtain ⟨cl', hcl', hv⟩ := (handle_recv_effect (deliver_ok_handle hok)).verified
  rw [hcl] at hcl'; cases hcl'
  exact tss_verify_signer hk hv

/-- **tss_ack_needs_tss_signer**: the same for acknowledgements — putting the (public) TSS address into `ProofAcked`
does not help an account that is not the TSS address. -/
theorem tss_ack_needs_tss_signer (env : Env) (c : Chain) (now : UInt64) (pk ak pf : Bytes) (h : Height) (s : Bytes)
    (o : EvmOut) (cl : Client) (hcl : c.clients.get (env.decodePacket pk).1.dst = some cl) (hk : cl.kind = .tss)
    (hok : (deliver env c now (.acknowledgement pk ak pf h s o)).2 = .ok) : s = cl.tssAddr := by
  obtain ⟨cl', hcl', hv⟩ := (handle_ack_effect (deliver_ok_handle hok)).verified
  rw [hcl] at hcl'; cases hcl'
  exact tss_verify_signer hk hv

/-! ### EVM-secured counterparties: the stored word is compared exactly -/
section EvmValue
open TM.EvmProof (checkProofResult rlpString trimZeros leftPad32)

/-- Shape of the BSC / ETH membership verifier: the account and storage proofs establish (abstractly: `lookup`) the RLP
value the storage trie holds for the slot of `path` under `root` — `none` if a proof fails — and the value check is the
transcribed `checkProofResult`: RLP-decode the trimmed word and pad it on the LEFT to 32 bytes. -/
def EvmShaped (env : Env) (lookup : Bytes → Bytes → Bytes → Bytes → Option Bytes) : Prop :=
  ∀ name kind root proof path value, (kind = ClientKind.bsc ∨ kind = ClientKind.eth) →
    env.verify name kind root proof path value =
      (match lookup name root proof path with
       | some r => checkProofResult r value
       | none => false)

/-- what the proofs establish is what the EVM stores for the sealed word: the RLP string of its minimal big-endian
form (`sealed name root path` = the 32-byte word the packet contract holds at the slot of `path` in the state `root`) -/
def LookupSound (lookup : Bytes → Bytes → Bytes → Bytes → Option Bytes) (sealed : Bytes → Bytes → Bytes → Option Bytes) : Prop :=
  ∀ name root proof path r, lookup name root proof path = some r →
    ∃ w, sealed name root path = some w ∧ w.length = 32 ∧ r = rlpString (trimZeros w)

/-- **evm_value_exact**: the EVM clients accept a 32-byte commitment / acknowledgement hash only if the sealed word is
exactly that hash — a word with leading zero bytes is compared after LEFT-padding its trimmed form, so neither `W[k:]‖0^k`
nor `0^k‖H[0..32-k)` passes for another word. -/
theorem evm_value_exact {env : Env} {lookup : Bytes → Bytes → Bytes → Bytes → Option Bytes}
    {sealed : Bytes → Bytes → Bytes → Option Bytes} (hshape : EvmShaped env lookup) (hsound : LookupSound lookup sealed)
    {name : Bytes} {kind : ClientKind} (hkind : kind = .bsc ∨ kind = .eth) {root proof path value : Bytes}
    (hlen : value.length = 32) (hv : env.verify name kind root proof path value = true) :
    sealed name root path = some value := by
  rw [hshape name kind root proof path value hkind] at hv
  split at hv
  · rename_i r hr
    obtain ⟨w, hw, hwl, hrw⟩ := hsound _ _ _ _ _ hr
    obtain ⟨t, hdec, _, htrim⟩ := (TM.EvmProof.leading_zero_values hlen r).mp hv
    have hl := TM.EvmProof.trimZeros_length_le w
    rw [hrw, TM.EvmProof.rlpDecodeBytes_rlpString (by omega)] at hdec
    injection hdec with hdec
    subst hdec
    -- trimZeros (trimZeros w) = trimZeros value; pad both back to 32 bytes
    have h1 : leftPad32 (trimZeros w) = value := (TM.EvmProof.leftPad32_eq_iff hlen).mpr ⟨by omega, htrim⟩
    rw [TM.EvmProof.leftPad32_trimZeros hwl] at h1
    rw [hw, h1]
  · cases hv

/-- conversely a genuinely stored word is accepted whatever its number of leading (or trailing) zero bytes -/
theorem evm_value_roundtrip {w : Bytes} (hw : w.length = 32) : checkProofResult (rlpString (trimZeros w)) w = true :=
  TM.EvmProof.leading_zero_roundtrip hw

/-- **evm_recv_exact**: an accepted receive secured by a BSC / ETH client ⇒ under the root the client holds at the proof
height the packet contract's sealed word at the commitment path of exactly this triple is exactly sha256(ABIPack p). -/
theorem evm_recv_exact (env : Env) (lookup : Bytes → Bytes → Bytes → Bytes → Option Bytes)
    (sealed : Bytes → Bytes → Bytes → Option Bytes) (hshape : EvmShaped env lookup) (hsound : LookupSound lookup sealed)
    (hsha : ∀ b, (env.sha256 b).length = 32)
    (c : Chain) (now : UInt64) (pk pf : Bytes) (h : Height) (s : Bytes) (cb : Callback) (cl : Client)
    (hcl : c.clients.get (env.decodePacket pk).1.src = some cl) (hk : cl.kind = .bsc ∨ cl.kind = .eth)
    (hok : (deliver env c now (.recvPacket pk pf h s cb)).2 = .ok) :
    ∃ root, cl.cons.get h = some root ∧
      sealed (env.decodePacket pk).1.src root (commitKey (env.decodePacket pk).1) =
        some (env.sha256 (env.encodePacket (env.decodePacket pk).1)) := by
  obtain ⟨_, cl', hcl', hv⟩ := recv_authentic env c now pk pf h s cb hok
  rw [hcl] at hcl'; cases hcl'
  obtain ⟨root, hroot, hver⟩ := hv.light fun ht => by rcases hk with hk | hk <;> rw [hk] at ht <;> cases ht
  exact ⟨root, hroot, evm_value_exact hshape hsound hk (hsha _) hver⟩

end EvmValue

/-- soundness of the membership verifiers w.r.t. an abstract "the counterparty state with this root maps path to
value" relation `S client root path value` -/
def MembershipSound (env : Env) (S : Bytes → Bytes → Bytes → Bytes → Prop) : Prop :=
  ∀ name kind root proof path value, env.verify name kind root proof path value = true → S name root path value

/-- **altered_rejected**: if, for the proof-verifying client of the source chain, no consensus state held at the
stated height has a root under which the source stored sha256(ABIPack p) at p's commitment path, the receive is
rejected (whatever proof bytes it carries) and nothing changes. -/
theorem altered_rejected (env : Env) (S : Bytes → Bytes → Bytes → Bytes → Prop) (hs : MembershipSound env S)
    (c : Chain) (now : UInt64) (pk pf : Bytes) (h : Height) (s : Bytes) (cb : Callback)
    (hnotss : ∀ cl, c.clients.get (env.decodePacket pk).1.src = some cl → cl.kind ≠ .tss)
    (hnot : ∀ cl root, c.clients.get (env.decodePacket pk).1.src = some cl → cl.cons.get h = some root →
      ¬ S (env.decodePacket pk).1.src root (commitKey (env.decodePacket pk).1)
          (env.sha256 (env.encodePacket (env.decodePacket pk).1))) :
    deliver env c now (.recvPacket pk pf h s cb) = (c, .err) := by
  refine deliver_rejected fun hok => ?_
  obtain ⟨_, cl, hcl, hv⟩ := recv_authentic env c now pk pf h s cb hok
  obtain ⟨root, hroot, hver⟩ := hv.light (hnotss cl hcl)
  exact hnot cl root hcl hroot (hs _ _ _ _ _ _ hver)

/-- the same for acknowledgements -/
theorem altered_ack_rejected (env : Env) (S : Bytes → Bytes → Bytes → Bytes → Prop) (hs : MembershipSound env S)
    (c : Chain) (now : UInt64) (pk ak pf : Bytes) (h : Height) (s : Bytes) (o : EvmOut)
    (hnotss : ∀ cl, c.clients.get (env.decodePacket pk).1.dst = some cl → cl.kind ≠ .tss)
    (hnot : ∀ cl root, c.clients.get (env.decodePacket pk).1.dst = some cl → cl.cons.get h = some root →
      ¬ S (env.decodePacket pk).1.dst root (ackKey (env.decodePacket pk).1) (env.sha256 ak)) :
    deliver env c now (.acknowledgement pk ak pf h s o) = (c, .err) := by
  refine deliver_rejected fun hok => ?_
  obtain ⟨cl, hcl, hv⟩ := (handle_ack_effect (deliver_ok_handle hok)).verified
  obtain ⟨root, hroot, hver⟩ := (verify_true hv).light (hnotss cl hcl)
  exact hnot cl root hcl hroot (hs _ _ _ _ _ _ hver)

/-- collision-freeness of the packet commitment -/
def CommitInj (env : Env) : Prop :=
  ∀ p q : Packet, env.sha256 (env.encodePacket p) = env.sha256 (env.encodePacket q) → p = q

/-- **altered packet**: if under every root the client holds at height `h` the source stored the commitment of the
genuine packet `p0` at a path, then a message carrying any *other* packet with the same commitment path (same
triple: altered sender, transfer data, call data, callback address or fee option) is rejected. -/
theorem altered_packet_rejected (env : Env) (S : Bytes → Bytes → Bytes → Bytes → Prop) (hs : MembershipSound env S)
    (hfun : ∀ name root path v v', S name root path v → S name root path v' → v = v') (hinj : CommitInj env)
    (c : Chain) (now : UInt64) (pk pf : Bytes) (h : Height) (s : Bytes) (cb : Callback) (p0 : Packet)
    (hnotss : ∀ cl, c.clients.get (env.decodePacket pk).1.src = some cl → cl.kind ≠ .tss)
    (hgen : ∀ cl root, c.clients.get (env.decodePacket pk).1.src = some cl → cl.cons.get h = some root →
      S (env.decodePacket pk).1.src root (commitKey (env.decodePacket pk).1) (env.sha256 (env.encodePacket p0)))
    (halt : (env.decodePacket pk).1 ≠ p0) :
    deliver env c now (.recvPacket pk pf h s cb) = (c, .err) := by
  apply altered_rejected env S hs c now pk pf h s cb hnotss
  intro cl root hcl hroot hS
  have := hfun _ _ _ _ _ hS (hgen cl root hcl hroot)
  exact halt (hinj _ _ this)

/-! ### non-vacuity: a verifier that is `MembershipSound`, a receive accepted at the stored height and rejected at two
others. Not exhibited: an accepted acknowledgement (`decodeAck` is `none` in `aEnv`), `CommitInj` (`aEnv.encodePacket` is
constant), `EvmShaped` / `LookupSound`. -/
section Example
def aPacket : Packet := ⟨[1], [2], 1, [], [9], [], [], 0⟩
/-- an environment whose verifier is sound for the relation "value = 0 :: path" -/
def aEnv : Env where
  sha256 := fun b => 0 :: b
  decodePacket := fun _ => (aPacket, false)
  encodePacket := fun _ => commitKey aPacket
  decodeAck := fun _ => none
  encodeAck := fun _ => [8]
  verify := fun _ _ _ _ path value => value == 0 :: path
  bech32Valid := fun _ => true

example : MembershipSound aEnv (fun _ _ path value => value = 0 :: path) := by
  intro name kind root proof path value h
  simpa [aEnv] using h

def aClient : Client := ⟨.tm, ⟨0, 5⟩, [(⟨0, 5⟩, [3])], [(⟨0, 5⟩, 0)], 0, 0, []⟩
def aChain : Chain := { Chain.init [2] with clients := [([1], aClient)], relayers := [⟨[4], [[1]], [[5]]⟩] }
-- accepted at the stored height, rejected at a height without consensus state and above the latest height
example : (deliver aEnv aChain 10 (.recvPacket [] [] ⟨0, 5⟩ [4] (.ok 0 [] []))).2 = .ok := by decide +kernel
example : (deliver aEnv aChain 10 (.recvPacket [] [] ⟨0, 4⟩ [4] (.ok 0 [] []))).2 = .err := by decide +kernel
example : (deliver aEnv aChain 10 (.recvPacket [] [] ⟨0, 6⟩ [4] (.ok 0 [] []))).2 = .err := by decide +kernel
end Example

end TM.Xibc
