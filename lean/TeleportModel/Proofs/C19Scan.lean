import TeleportModel.Model.Host
import TeleportModel.Generated.HostKeys
import TeleportModel.Generated.PacketScans
import TeleportModel.Proofs.C19Host
import TeleportModel.Proofs.C19Cons
/-
C19 — per-path prefix scans. `IteratePacketCommitmentByPath` / `GetAllPacketCommitmentsByPath` and the gRPC
queries `PacketCommitments` / `PacketAcknowledgements` scan the one xibc store with the prefix
`host.XPrefixPath(src, dst)` and report every entry found for the REQUESTED (src, dst). This is exact — the scan
returns precisely the entries written for that pair — iff after the destination name the prefix continues with a
fixed segment that starts with '/': otherwise `…/bsc` is also a prefix of `…/bsc-testnet/…`.
`ByPathShape` states that requirement for a (prefix template, key template) pair; it is a `decide` obligation over
the regenerated tables (`pathScans_wf`).
-/
namespace TM.C19
open TM TM.Host TM.Generated

/-- prefix template `<p0>/<src>/<dst>/<m0>`, key template `<p0>/<src>/<dst>/<m0>/<seq>`, '/'-free family prefix -/
def ByPathShape (P K : Template) (p0 m0 : Bytes) : Prop :=
  P = { params := [.str, .str], segs := [.lit (p0 ++ [slash]), .str 0, .lit [slash], .str 1, .lit (slash :: m0)] } ∧
  PacketShape K p0 m0

instance (P K : Template) (p0 m0 : Bytes) : Decidable (ByPathShape P K p0 m0) := by unfold ByPathShape; infer_instance

def keyOf (p0 m0 a b : Bytes) (n : UInt64) : Bytes :=
  p0 ++ slash :: (a ++ slash :: (b ++ slash :: (m0 ++ slash :: toDec n)))

def preOf (p0 m0 a b : Bytes) : Bytes := p0 ++ slash :: (a ++ slash :: (b ++ slash :: m0))

theorem render_key (P K : Template) (p0 m0 a b : Bytes) (n : UInt64) (h : ByPathShape P K p0 m0) :
    render K [.s a, .s b, .n n] = some (keyOf p0 m0 a b n) := render_packet K p0 m0 a b n h.2

theorem render_pre (P K : Template) (p0 m0 a b : Bytes) (h : ByPathShape P K p0 m0) :
    render P [.s a, .s b] = some (preOf p0 m0 a b) := by
  rw [h.1]; simp [render, renderSegs, renderSeg, Arg.ty, preOf]

theorem keyOf_eq (p0 m0 a b : Bytes) (n : UInt64) : keyOf p0 m0 a b n = preOf p0 m0 a b ++ slash :: toDec n := by
  simp [keyOf, preOf]

theorem prefix_name (a a' X Y : Bytes) (ha : slash ∉ a) (ha' : slash ∉ a')
    (h : a ++ slash :: X <+: a' ++ slash :: Y) : a = a' ∧ X <+: Y := by
  obtain ⟨t, ht⟩ := h
  rw [List.append_assoc, List.cons_append] at ht
  -- both sides split at their first '/' into the same parts
  have hs := congrArg (splitOn slash) ht
  rw [splitOn_append slash a _ ha, splitOn_append slash a' _ ha'] at hs
  obtain rfl := (List.cons.inj hs).1
  exact ⟨rfl, t, (List.cons.inj (List.append_cancel_left ht)).2⟩

theorem bypath_prefix_iff (p0 m0 a b a' b' : Bytes) (n : UInt64)
    (ha : slash ∉ a) (hb : slash ∉ b) (ha' : slash ∉ a') (hb' : slash ∉ b') :
    hasPrefix (keyOf p0 m0 a' b' n) (preOf p0 m0 a b) = true ↔ (a' = a ∧ b' = b) := by
  rw [hasPrefix_iff]
  constructor
  · intro h
    rw [keyOf, preOf, List.prefix_append_right_inj, List.cons_prefix_cons] at h
    obtain ⟨h1, h2⟩ := prefix_name a a' _ _ ha ha' h.2
    obtain ⟨h3, _⟩ := prefix_name b b' _ _ hb hb' h2
    exact ⟨h1.symm, h3.symm⟩
  · rintro ⟨rfl, rfl⟩
    rw [keyOf_eq]
    exact List.prefix_append _ _

theorem bypath_foreign (p0 m0 a b k : Bytes) (h : hasPrefix k (p0 ++ [slash]) = false) :
    hasPrefix k (preOf p0 m0 a b) = false := by
  have hp : p0 ++ [slash] <+: preOf p0 m0 a b := ⟨a ++ slash :: (b ++ slash :: m0), (List.append_cons _ _ _).symm⟩
  refine Bool.eq_false_iff.mpr fun hh => ?_
  rw [(hasPrefix_iff _ _).mpr (hp.trans ((hasPrefix_iff _ _).mp hh))] at h; cases h

/-- what the store contains: entries written through the keeper for this family, and keys of other families -/
inductive Entry (V : Type) where
  | written (a b : Bytes) (n : UInt64) (v : V)
  | foreign (k : Bytes) (v : V)

def Entry.kv {V} (p0 m0 : Bytes) : Entry V → Bytes × V
  | .written a b n v => (keyOf p0 m0 a b n, v)
  | .foreign k v => (k, v)

/-- chain names are '/'-free (valid names are); foreign keys do not start with the family prefix -/
def Entry.Ok {V} (p0 : Bytes) : Entry V → Prop
  | .written a b _ _ => slash ∉ a ∧ slash ∉ b
  | .foreign k _ => hasPrefix k (p0 ++ [slash]) = false

/-- the entries written for (a, b), in store order -/
def Entry.sel {V} (a b : Bytes) : Entry V → Option (Bytes × Bytes × UInt64 × V)
  | .written a' b' n v => if a' = a ∧ b' = b then some (a, b, n, v) else none
  | .foreign _ _ => none

theorem entry_match {V} (p0 m0 a b : Bytes) (ha : slash ∉ a) (hb : slash ∉ b) (e : Entry V) (he : e.Ok p0) :
    hasPrefix (e.kv p0 m0).1 (preOf p0 m0 a b) = (e.sel a b).isSome := by
  cases e with
  | written a' b' n v =>
    have := bypath_prefix_iff p0 m0 a b a' b' n ha hb he.1 he.2
    by_cases hab : a' = a ∧ b' = b
    · have hp := this.mpr hab
      obtain ⟨rfl, rfl⟩ := hab
      simp only [Entry.kv, Entry.sel, hp, and_self, if_true, Option.isSome_some]
    · simp only [Entry.kv, Entry.sel, Bool.eq_false_iff.mpr (mt this.mp hab), hab, if_false, Option.isSome_none]
  | foreign k v => exact bypath_foreign p0 m0 a b k he

/-- generic form: any key parser that reads the sequence of the keys of (a, b) correctly -/
theorem bypath_scan_exact_gen {V} (parse : Bytes → Outcome UInt64) (p0 m0 a b : Bytes)
    (ha : slash ∉ a) (hb : slash ∉ b) (hparse : ∀ n, parse (keyOf p0 m0 a b n) = .ok n)
    (es : List (Entry V)) (hes : ∀ e ∈ es, e.Ok p0) :
    scanByPath parse (preOf p0 m0 a b) a b (es.map (Entry.kv p0 m0)) = .ok (es.filterMap (Entry.sel a b)) := by
  induction es with
  | nil => rfl
  | cons e r ih =>
    have ihr := ih (fun e he => hes e (List.mem_cons_of_mem _ he))
    have hm := entry_match p0 m0 a b ha hb e (hes e List.mem_cons_self)
    rw [List.map_cons, scanByPath, hm, ihr, List.filterMap_cons]
    cases e with
    | foreign k v => rfl
    | written a' b' n v =>
      by_cases hab : a' = a ∧ b' = b
      · obtain ⟨rfl, rfl⟩ := hab
        simp only [Entry.sel, and_self, if_true, Option.isSome_some, Entry.kv, hparse]
      · simp only [Entry.sel, hab, if_false, Option.isSome_none, Bool.false_eq_true]

theorem keeperSeq_key (K : Template) (p0 m0 a b : Bytes) (n : UInt64) (hK : PacketShape K p0 m0)
    (ha : slash ∉ a) (hb : slash ∉ b) : keeperSeq (keyOf p0 m0 a b n) = .ok n := by
  rw [keeperSeq, packet_key_parses K p0 m0 a b (keyOf p0 m0 a b n) n hK ha hb (render_packet K p0 m0 a b n hK)]

theorem grpcSeq_key (p0 m0 a b : Bytes) (n : UInt64) :
    grpcSeq (preOf p0 m0 a b) (keyOf p0 m0 a b n) = .ok n := by
  unfold grpcSeq
  rw [keyOf_eq, List.drop_left, splitOn_sep, splitOn_noSep slash _ (toDec_noSlash n)]
  simp [dec_roundtrip]

/-- **by-path scans are exact**: for '/'-free (in particular valid) chain names, scanning with the per-path prefix
    of (a, b) — with either of the two key parsers the code uses — returns exactly the entries written for (a, b),
    with their sequences, whatever else the store contains (other destinations whose NAME EXTENDS b, other
    sources, other families). -/
theorem bypath_scan_exact {V} (s : ScanParser) (P K : Template) (p0 m0 a b pre : Bytes) (hT : ByPathShape P K p0 m0)
    (ha : slash ∉ a) (hb : slash ∉ b) (hpre : render P [.s a, .s b] = some pre)
    (es : List (Entry V)) (hes : ∀ e ∈ es, e.Ok p0) :
    scanByPath (scanParserOf s pre) pre a b (es.map (Entry.kv p0 m0)) = .ok (es.filterMap (Entry.sel a b)) := by
  rw [render_pre P K p0 m0 a b hT] at hpre
  cases hpre
  apply bypath_scan_exact_gen _ p0 m0 a b ha hb _ es hes
  intro n
  cases s with
  | splitLast => exact grpcSeq_key p0 m0 a b n
  | _ => exact keeperSeq_key K p0 m0 a b n hT.2 ha hb

/-- `prefixScan` with the per-path prefix selects exactly the keys written for (a, b) -/
theorem bypath_prefixScan_exact {V} (p0 m0 a b : Bytes) (ha : slash ∉ a) (hb : slash ∉ b)
    (es : List (Entry V)) (hes : ∀ e ∈ es, e.Ok p0) :
    prefixScan (preOf p0 m0 a b) (es.map (Entry.kv p0 m0)) =
      (es.filter (fun e => (Entry.sel a b e).isSome)).map (Entry.kv p0 m0) := by
  rw [prefixScan, prefixIter, List.filter_map]
  congr 1
  exact List.filter_congr (fun e he => entry_match p0 m0 a b ha hb e (hes e he))

/-- family prefix and fixed segment read off the key template -/
def p0Of (K : Template) : Bytes := match K.segs with | .lit l :: _ => l.dropLast | _ => []
def m0Of (K : Template) : Bytes := match K.segs with | [_, _, _, _, .lit l, _] => (l.drop 1).dropLast | _ => []

/-- the decidable well-formedness of a by-path scan: its prefix is `<family>/<src>/<dst>` FOLLOWED BY a fixed
    segment starting with '/', and the keys it enumerates continue with '/' and the decimal sequence -/
def ScanWF (s : PathScan) : Prop := ByPathShape s.prefixT s.keyT (p0Of s.keyT) (m0Of s.keyT)

instance (s : PathScan) : Decidable (ScanWF s) := by unfold ScanWF; infer_instance

/-- every per-path scan found in the packet keeper uses a separator-terminated prefix -/
theorem pathScans_wf : ∀ s ∈ PacketScans.pathScans, ScanWF s := by decide +kernel

/-- the scans the check knows (a new scan must get its own obligations and harness ops) -/
theorem pathScans_known : PacketScans.pathScans.map (fun s => (s.fn, s.parser)) =
    [("PacketCommitments", .splitLast), ("PacketAcknowledgements", .splitLast), ("IteratePacketCommitmentByPath", .iterateHashes)] := rfl

theorem familyScans_known : PacketScans.familyScans.map (fun s => (s.fn, s.parser)) =
    [("GetAllPacketSendSeqs", .parsePath), ("IteratePacketCommitment", .iterateHashes),
     ("IteratePacketReceipt", .iterateHashes), ("IteratePacketAcknowledgement", .iterateHashes)] := rfl

/-- the four XPrefixPath templates themselves (also those nobody scans with today) -/
theorem commitmentPrefixPath_shape : ByPathShape HostKeys.packetCommitmentPrefixPath HostKeys.packetCommitmentKey GC.commitmentPrefix [115, 101, 113, 117, 101, 110, 99, 101, 115] :=
  ⟨rfl, commitmentKey_shape⟩
theorem ackPrefixPath_shape : ByPathShape HostKeys.packetAcknowledgementPrefixPath HostKeys.packetAcknowledgementKey GC.ackPrefix [115, 101, 113, 117, 101, 110, 99, 101, 115] :=
  ⟨rfl, ackKey_shape⟩
theorem receiptPrefixPath_shape : ByPathShape HostKeys.packetReceiptPrefixPath HostKeys.packetReceiptKey GC.receiptPrefix [115, 101, 113, 117, 101, 110, 99, 101, 115] :=
  ⟨rfl, receiptKey_shape⟩
theorem relayerPrefixPath_shape : ByPathShape HostKeys.packetRelayerPrefixPath HostKeys.packetRelayerKey GC.relayerPrefix [115, 101, 113, 117, 101, 110, 99, 101, 115] :=
  ⟨rfl, relayerKey_shape⟩

/-- the property on the generated scan table and the generated validators: every by-path scan of the keeper,
    asked for a VALID (src, dst), returns exactly what was written for (src, dst) -/
theorem generated_bypath_scan_exact {V} (s : PathScan) (hs : s ∈ PacketScans.pathScans) (a b pre : Bytes)
    (ha : validName Validate.srcChainValidator a = true) (hb : validName Validate.dstChainValidator b = true)
    (hpre : render s.prefixT [.s a, .s b] = some pre)
    (es : List (Entry V)) (hes : ∀ e ∈ es, e.Ok (p0Of s.keyT)) :
    scanByPath (scanParserOf s.parser pre) pre a b (es.map (Entry.kv (p0Of s.keyT) (m0Of s.keyT))) =
      .ok (es.filterMap (Entry.sel a b)) :=
  bypath_scan_exact s.parser s.prefixT s.keyT _ _ a b pre (pathScans_wf s hs)
    (validName_noSlash _ srcChain_excludesSlash a ha) (validName_noSlash _ dstChain_excludesSlash b hb) hpre es hes

/-! ### the defect as a witness: without the fixed segment the prefix of `bsc` also selects `bsc-testnet` -/

/-- "commitments/src/bsc" is a prefix of the key written for (src, bsc-testnet, 7) -/
theorem unterminated_prefix_overmatches :
    hasPrefix (keyOf GC.commitmentPrefix [115, 101, 113, 117, 101, 110, 99, 101, 115] [115, 114, 99] [98, 115, 99, 45, 116, 101, 115, 116, 110, 101, 116] 7)
      (GC.commitmentPrefix ++ slash :: ([115, 114, 99] ++ slash :: [98, 115, 99])) = true := by decide +kernel

/-! ### non-vacuity -/
example : (render HostKeys.packetCommitmentPrefixPath [.s [115, 114, 99], .s [98, 115, 99]]).isSome = true := by decide +kernel
example : Entry.Ok (V := Nat) GC.commitmentPrefix (.written [115, 114, 99] [98, 115, 99, 45, 116, 101, 115, 116, 110, 101, 116] 7 0) := by unfold Entry.Ok; decide +kernel
example : Entry.Ok (V := Nat) GC.commitmentPrefix (.foreign [97, 99, 107, 115, 47, 97] 0) := by unfold Entry.Ok; decide +kernel

end TM.C19
