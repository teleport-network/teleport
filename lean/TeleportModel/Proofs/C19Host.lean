import TeleportModel.Model.Host
import TeleportModel.Lemmas.Outcome
/-
C19 — store keys: decimal round trip, `strings.Split` lemmas, packet keys and next-sequence keys are parsed back
to exactly the arguments they were rendered from (hence injective), for chain names without '/' (which the identifier
validator guarantees, `validName_noSlash`) and for ALL uint64 sequences.
`Lemmas.Outcome` is imported for its `LawfulBEq UInt8` instance, which membership in a byte string needs at every use.
-/
namespace TM.C19
open TM TM.Host

theorem digit_spec : ∀ k : Fin 10, isDigit (UInt8.ofNat (48 + k.val)) = true ∧ (UInt8.ofNat (48 + k.val)).toNat - 48 = k.val := by
  decide +kernel

theorem digit_isDigit (n : Nat) : isDigit (digit n) = true :=
  (digit_spec ⟨n % 10, Nat.mod_lt _ (by decide)⟩).1

theorem toDecF_digits (f n : Nat) : ∀ c ∈ toDecF f n, isDigit c = true := by
  fun_induction toDecF f n with
  | case1 => intro c hc; cases hc
  | case2 f n h10 => intro c hc; rw [List.mem_singleton.mp hc]; exact digit_isDigit n
  | case3 f n h10 ih =>
    intro c hc
    rcases List.mem_append.mp hc with hc | hc
    · exact ih c hc
    · rw [List.mem_singleton.mp hc]; exact digit_isDigit n

theorem toDecF_ne_nil (f n : Nat) : toDecF (f + 1) n ≠ [] := by
  unfold toDecF; split <;> simp

theorem parseNatFrom_snoc (xs : Bytes) (c : UInt8) (acc : Nat) :
    parseNatFrom acc (xs ++ [c]) = (parseNatFrom acc xs).bind (fun a => parseStep a c) := by
  fun_induction parseNatFrom acc xs with
  | case1 acc => simp only [List.nil_append, parseNatFrom, Option.bind_some]; cases parseStep acc c <;> rfl
  | case2 acc x r h => simp only [List.cons_append, parseNatFrom, h]; rfl
  | case3 acc x r a h ih => simp only [List.cons_append, parseNatFrom, h, ih]

theorem parseStep_digit (n : Nat) (h : n < 2 ^ 64) : parseStep (n / 10) (digit n) = some n := by
  have hv : (digit n).toNat - 48 = n % 10 := (digit_spec ⟨n % 10, Nat.mod_lt _ (by decide)⟩).2
  simp only [parseStep, digit_isDigit, hv, Nat.div_add_mod' n 10, h, if_true]

theorem parseNatFrom_toDecF (f n : Nat) (hn : n < 10 ^ f) (hb : n < 2 ^ 64) : parseNatFrom 0 (toDecF f n) = some n := by
  fun_induction toDecF f n with
  | case1 n => rw [Nat.lt_one_iff.mp hn]; rfl
  | case2 f n h10 =>
    have := parseStep_digit n hb
    rw [Nat.div_eq_of_lt h10] at this
    simp only [parseNatFrom, this]
  | case3 f n h10 ih =>
    have hn' : n / 10 < 10 ^ f := Nat.div_lt_of_lt_mul (by rw [Nat.mul_comm, ← Nat.pow_succ]; exact hn)
    rw [parseNatFrom_snoc, ih hn' (Nat.lt_of_le_of_lt (Nat.div_le_self n 10) hb)]
    exact parseStep_digit n hb

/-- **decimal round trip**: strconv.ParseUint(strconv.FormatUint(n)) = n for the whole uint64 range -/
theorem dec_roundtrip (n : UInt64) : parseUint (toDec n) = some n := by
  have h20 : n.toNat < 10 ^ 20 := Nat.lt_trans n.toNat_lt (by decide)
  unfold parseUint toDec
  rw [if_neg (toDecF_ne_nil 19 _), parseNatFrom_toDecF 20 n.toNat h20 n.toNat_lt]
  simp only [Option.map_some, UInt64.ofNat_toNat]

theorem toDec_noByte (n : UInt64) (c : UInt8) (hc : isDigit c = false) : c ∉ toDec n := by
  intro h
  have := toDecF_digits 20 n.toNat c h
  rw [hc] at this; cases this

theorem toDec_noSlash (n : UInt64) : slash ∉ toDec n := toDec_noByte n slash (by decide)

theorem splitOn_ne_nil (sep : UInt8) (s : Bytes) : splitOn sep s ≠ [] := by
  fun_induction splitOn sep s <;> exact List.cons_ne_nil _ _

theorem splitOn_sep (sep : UInt8) (r : Bytes) : splitOn sep (sep :: r) = [] :: splitOn sep r := by
  rw [splitOn]
  cases hs : splitOn sep r with
  | nil => exact absurd hs (splitOn_ne_nil _ _)
  | cons p ps => exact if_pos rfl

theorem splitOn_noSep (sep : UInt8) (a : Bytes) (h : sep ∉ a) : splitOn sep a = [a] := by
  induction a with
  | nil => rfl
  | cons b r ih =>
    obtain ⟨hb, hr⟩ := List.ne_and_not_mem_of_not_mem_cons h
    rw [splitOn, ih hr]
    exact if_neg (Ne.symm hb)

/-- `strings.Split` splits the text before and the text after a separator independently -/
theorem splitOn_append_sep (sep : UInt8) (x d : Bytes) :
    splitOn sep (x ++ sep :: d) = splitOn sep x ++ splitOn sep d := by
  induction x with
  | nil => exact splitOn_sep sep d
  | cons c x ih =>
    rw [List.cons_append, splitOn, ih, splitOn]
    cases hs : splitOn sep x with
    | nil => exact absurd hs (splitOn_ne_nil _ _)
    | cons p ps =>
      simp only [List.cons_append]
      split
      · rfl
      · rfl

theorem splitOn_append (sep : UInt8) (a rest : Bytes) (h : sep ∉ a) :
    splitOn sep (a ++ sep :: rest) = a :: splitOn sep rest := by
  rw [splitOn_append_sep, splitOn_noSep sep a h]; rfl

/-- shape shared by the commitment / ack / receipt / relayer key templates:
    `<p0>/<src>/<dst>/<m0>/<seq>` with a '/'-free family prefix `p0` -/
def PacketShape (T : Template) (p0 m0 : Bytes) : Prop :=
  T = { params := [.str, .str, .u64],
        segs := [.lit (p0 ++ [slash]), .str 0, .lit [slash], .str 1, .lit (slash :: (m0 ++ [slash])), .dec 2] } ∧
  slash ∉ p0

instance (T : Template) (p0 m0 : Bytes) : Decidable (PacketShape T p0 m0) := by unfold PacketShape; infer_instance

theorem render_packet (T : Template) (p0 m0 a b : Bytes) (n : UInt64) (hT : PacketShape T p0 m0) :
    render T [.s a, .s b, .n n] = some (p0 ++ slash :: (a ++ slash :: (b ++ slash :: (m0 ++ slash :: toDec n)))) := by
  rw [hT.1]
  simp only [render, renderSegs, renderSeg, Arg.ty, List.map_cons, List.map_nil, if_true, List.getElem?_cons_zero,
    List.getElem?_cons_succ, List.append_assoc, List.cons_append, List.append_nil, List.nil_append]

/-- **every packet key is read back as the triple it was written for** (`iterateHashes`) -/
theorem packet_key_parses (T : Template) (p0 m0 a b k : Bytes) (n : UInt64) (hT : PacketShape T p0 m0)
    (ha : slash ∉ a) (hb : slash ∉ b) (hk : render T [.s a, .s b, .n n] = some k) :
    parseHashesKey k = .ok (a, b, n) := by
  rw [render_packet T p0 m0 a b n hT] at hk
  cases hk
  have hl : (p0 :: a :: b :: (splitOn slash m0 ++ [toDec n])).getLastD [] = toDec n :=
    List.getLastD_concat (l := p0 :: a :: b :: splitOn slash m0)
  unfold parseHashesKey
  rw [splitOn_append slash p0 _ hT.2, splitOn_append slash a _ ha, splitOn_append slash b _ hb, splitOn_append_sep,
    splitOn_noSep slash _ (toDec_noSlash n)]
  simp only [hl, dec_roundtrip, List.getElem?_cons_succ, List.getElem?_cons_zero]

/-- **different triples never share a key** -/
theorem packet_key_injective (T : Template) (p0 m0 a b a' b' k : Bytes) (n n' : UInt64) (hT : PacketShape T p0 m0)
    (ha : slash ∉ a) (hb : slash ∉ b) (ha' : slash ∉ a') (hb' : slash ∉ b')
    (hk : render T [.s a, .s b, .n n] = some k) (hk' : render T [.s a', .s b', .n n'] = some k) :
    (a, b, n) = (a', b', n') :=
  Outcome.ok.inj ((packet_key_parses T p0 m0 a b k n hT ha hb hk).symm.trans (packet_key_parses T p0 m0 a' b' k n' hT ha' hb' hk'))

/-- shape of the next-sequence key: `<p0>/<src>/<dst>` -/
def PairShape (T : Template) (p0 : Bytes) : Prop :=
  T = { params := [.str, .str], segs := [.lit (p0 ++ [slash]), .str 0, .lit [slash], .str 1] } ∧ slash ∉ p0

instance (T : Template) (p0 : Bytes) : Decidable (PairShape T p0) := by unfold PairShape; infer_instance

/-- next-sequence keys are read back by `host.ParsePath` as the pair they were written for -/
theorem pair_key_parses (T : Template) (p0 a b k : Bytes) (hT : PairShape T p0)
    (ha : slash ∉ a) (hb : slash ∉ b) (hk : render T [.s a, .s b] = some k) :
    parsePath k = .ok (a, b) := by
  rw [hT.1] at hk
  simp only [render, renderSegs, renderSeg, Arg.ty, List.map_cons, List.map_nil, if_true, List.getElem?_cons_zero,
    List.getElem?_cons_succ, List.append_assoc, List.cons_append, List.append_nil, List.nil_append, Option.some.injEq] at hk
  subst hk
  unfold parsePath
  rw [splitOn_append slash p0 _ hT.2, splitOn_append slash a _ ha, splitOn_noSep slash b hb]
  rfl

theorem pair_key_injective (T : Template) (p0 a b a' b' k : Bytes) (hT : PairShape T p0)
    (ha : slash ∉ a) (hb : slash ∉ b) (ha' : slash ∉ a') (hb' : slash ∉ b')
    (hk : render T [.s a, .s b] = some k) (hk' : render T [.s a', .s b'] = some k) : (a, b) = (a', b') :=
  Outcome.ok.inj ((pair_key_parses T p0 a b k hT ha hb hk).symm.trans (pair_key_parses T p0 a' b' k hT ha' hb' hk'))

theorem validName_noByte (r : IdRule) (c : UInt8) (hr : (r.checks.contains .charClass && !inClass r.cls c) = true)
    (id : Bytes) (hv : validName r id = true) : c ∉ id := by
  unfold validName at hv
  rw [List.all_eq_true] at hv
  simp only [Bool.and_eq_true, List.contains_iff_mem] at hr
  have := hv _ hr.1
  simp only [runCheck, Bool.and_eq_true, List.all_eq_true] at this
  intro hm
  have h2 := this.2 _ hm
  simp [h2] at hr

/-- a name accepted by `defaultIdentifierValidator` contains no separator -/
theorem validName_noSlash (r : IdRule) (hr : r.excludesSlash = true) (id : Bytes) (hv : validName r id = true) :
    slash ∉ id := by
  unfold IdRule.excludesSlash at hr
  rcases Bool.or_eq_true_iff.mp hr with h | h
  · have := List.all_eq_true.mp hv _ (List.contains_iff_mem.mp h)
    simpa [runCheck] using this
  · exact validName_noByte r slash h id hv

end TM.C19
