import TeleportModel.Model.Lifecycle
import TeleportModel.Proofs.C09
import TeleportModel.Lemmas.Outcome
/-
C18 — "Client lifecycle installs a usable client or changes nothing": theorems about Model/Lifecycle.lean
(the repaired behaviour, see fixes/C18-*.diff), for all states, all proposals / updates and all histories.
The last section (`namespace TM.Bsc`) is about Model/Bsc.lean, the BSC client of C09: the validator set announced by the
installed epoch header takes over at the switch point.
-/
namespace TM.Lifecycle

theorem lookup_filter (p : Name × Key → Bool) (key : Name × Key) (l : KV) :
    lookup key (l.filter (fun e => p e.1)) = if p key then lookup key l else none := by
  induction l with
  | nil => simp [lookup]
  | cons e r ih =>
    by_cases hk : e.1 = key
    · subst hk; cases hp : p e.1 <;> simp [hp, lookup, ih]
    · cases hp : p e.1 <;> simp [hp, lookup, hk, ih]

@[simp] theorem get_set (s : St) (n : Name) (k : Key) (v : Val) (n' : Name) (k' : Key) :
    get (set s n k v) n' k' = if (n, k) = (n', k') then some v else get s n' k' := by
  simp [get, set, lookup]

@[simp] theorem get_del (s : St) (n : Name) (k : Key) (n' : Name) (k' : Key) :
    get (del s n k) n' k' = if (n', k') = (n, k) then none else get s n' k' := by
  refine (lookup_filter (fun e => decide (e ≠ (n, k))) (n', k') s.kv).trans ?_
  by_cases h : (n', k') = (n, k) <;> simp [h, get]

@[simp] theorem get_clearName (s : St) (n n' : Name) (k' : Key) :
    get (clearName s n) n' k' = if n' = n then none else get s n' k' := by
  refine (lookup_filter (fun e => decide (e.1 ≠ n)) (n', k') s.kv).trans ?_
  by_cases h : n' = n <;> simp [h, get]

@[simp] theorem get_delSigners (s : St) (n n' : Name) (k' : Key) :
    get (delSigners s n) n' k' = if n' = n ∧ isSigner k' = true then none else get s n' k' := by
  refine (lookup_filter (fun e => !(decide (e.1 = n) && isSigner e.2)) (n', k') s.kv).trans ?_
  by_cases h : n' = n <;> by_cases h2 : isSigner k' = true <;> simp [h, h2, get]

theorem getClient_set_cs (s : St) (n : Name) (c : CState) : getClient (set s n .cs (.cstate c)) n = some c := by
  simp [getClient]

theorem getCons_set_cons (s : St) (n : Name) (h : Height) (k : KState) :
    getCons (set s n (.cons h) (.kstate k)) n h = some k := by
  simp [getCons]

theorem getClient_set_cons (s : St) (n : Name) (h : Height) (v : Val) (n' : Name) :
    getClient (set s n (.cons h) v) n' = getClient s n' := by
  simp [getClient]

@[simp] theorem now_set (s : St) (n k v) : (set s n k v).now = s.now := rfl
@[simp] theorem now_del (s : St) (n k) : (del s n k).now = s.now := rfl
@[simp] theorem now_clearName (s : St) (n) : (clearName s n).now = s.now := rfl
@[simp] theorem now_delSigners (s : St) (n) : (delSigners s n).now = s.now := rfl

def Frame (s s' : St) (n : Name) : Prop := s'.now = s.now ∧ ∀ n' key, n' ≠ n → get s' n' key = get s n' key

theorem Frame.refl {s : St} {n : Name} : Frame s s n := ⟨rfl, fun _ _ _ => rfl⟩

theorem Frame.trans {s s' s'' : St} {n : Name} (h : Frame s s' n) (h' : Frame s' s'' n) : Frame s s'' n :=
  ⟨h'.1.trans h.1, fun n' key hn => (h'.2 n' key hn).trans (h.2 n' key hn)⟩

theorem frame_set {s : St} {n : Name} {k : Key} {v : Val} : Frame s (set s n k v) n :=
  ⟨rfl, fun n' k' hn => by rw [get_set, if_neg (fun h => hn (congrArg Prod.fst h).symm)]⟩

theorem frame_del {s : St} {n : Name} {k : Key} : Frame s (del s n k) n :=
  ⟨rfl, fun n' k' hn => by rw [get_del, if_neg (fun h => hn (congrArg Prod.fst h))]⟩

theorem frame_clearName {s : St} {n : Name} : Frame s (clearName s n) n :=
  ⟨rfl, fun n' k' hn => by rw [get_clearName, if_neg hn]⟩

theorem frame_delSigners {s : St} {n : Name} : Frame s (delSigners s n) n :=
  ⟨rfl, fun n' k' hn => by rw [get_delSigners, if_neg (fun h => hn h.1)]⟩

/-- the metadata the client type needs at the latest height of `c` is in the store of `n`
    (tendermint: processed time `p` and the iteration key) -/
def InitialisedFor (s : St) (n : Name) (c : CState) (p : Nat) : Prop :=
  match c.ty with
  | .tm => get s n (.pt c.latest) = some (.num p) ∧ get s n (.it c.latest) = some (.txt "k")
  | .bsc => get s n (.sg c.latest) = some (.txt c.x1) ∧ get s n .pv = some (.txt c.x2)
  | .eth => get s n (.ei c.x1 c.latest.h) = some (.txt c.x3) ∧ get s n (.er c.x2 c.latest.h) = some (.txt c.x1)
  | .tss => True

/-- client state `c` with consensus state `k` at its latest height is what the store of `n` holds -/
def Installed (s : St) (n : Name) (c : CState) (k : KState) : Prop :=
  getClient s n = some c ∧ (c.ty ≠ .tss → getCons s n c.latest = some k)

theorem frame_writeMeta {s : St} {n : Name} {c : CState} : Frame s (writeMeta s n c) n := by
  unfold writeMeta
  cases c.ty
  case tss => exact Frame.refl
  all_goals exact frame_set.trans frame_set

theorem getClient_writeMeta (s : St) (n : Name) (c : CState) (n' : Name) :
    getClient (writeMeta s n c) n' = getClient s n' := by
  unfold getClient writeMeta
  cases c.ty <;> simp

theorem writeMeta_initialised (s : St) (n : Name) (c : CState) : InitialisedFor (writeMeta s n c) n c s.now := by
  unfold InitialisedFor writeMeta
  cases c.ty <;> simp

theorem initialised_set {s : St} {n : Name} {c : CState} {p : Nat} {key : Key} {v : Val}
    (hk : key = .cs ∨ ∃ hh, key = .cons hh) (h : InitialisedFor s n c p) : InitialisedFor (set s n key v) n c p := by
  unfold InitialisedFor at *
  revert h
  rcases hk with rfl | ⟨hh, rfl⟩ <;> cases c.ty <;> simp

theorem commit_ok {s s' : St} {o : Outcome St} (h : commit s o = (s', Res.ok)) : o = .ok s' := by
  cases o <;> cases h
  rfl

theorem commit_cases (s : St) (o : Outcome St) :
    (commit s o).1 = s ∨ (o = .ok (commit s o).1 ∧ (commit s o).2 = Res.ok) := by
  cases o
  · exact Or.inr ⟨rfl, rfl⟩
  · exact Or.inl rfl
  · exact Or.inl rfl

theorem validateContent_eq (p : Proposal) : validateContent p = validateBasic p := by
  unfold validateContent validateCreate validateUpgrade validateToggle
  cases p.kind <;> rfl

theorem govExec_of_valid {p : Proposal} (hv : validateBasic p = true) (s : St) :
    govExec s p = commit s (handle s p) := by
  unfold govExec; rw [validateContent_eq, hv]; rfl

theorem govExec_of_invalid {p : Proposal} (hv : validateBasic p = false) (s : St) : govExec s p = (s, Res.err) := by
  unfold govExec; rw [validateContent_eq, hv]; rfl

theorem govExec_ok {s s' : St} {p : Proposal} (h : govExec s p = (s', Res.ok)) :
    validateBasic p = true ∧ handle s p = .ok s' := by
  cases hv : validateBasic p
  · rw [govExec_of_invalid hv] at h; cases h
  · rw [govExec_of_valid hv] at h; exact ⟨rfl, commit_ok h⟩

theorem validateBasic_true {p : Proposal} (hv : validateBasic p = true) :
    validName p.name = true ∧ (∃ c, p.cs = some c ∧ c.valid = true) ∧ (∃ k, p.ks = some k ∧ k.vb = true) := by
  unfold validateBasic at hv
  cases hc : p.cs <;> cases hk : p.ks <;> simp_all

def InitOk (c : CState) (k : KState) : Prop := c.ty ≠ .tss → k.ty = c.ty ∧ c.initOk = true

structure Installs (s0 s' : St) (n : Name) (c : CState) (k : KState) : Prop where
  client : getClient s' n = some c
  cons : c.ty ≠ .tss → getCons s' n c.latest = some k
  init : InitialisedFor s' n c s0.now
  frame : Frame s0 s' n
  tss : c.ty = .tss → s' = set s0 n .cs (.cstate c)

/-- the last step of `createClient`, `upgradeClient` and `toggleClient` (a TSS client has no consensus states); the model
    writes this `if` out in each of the three, and their goals meet the lemmas below by unfolding it -/
def putCons (x : St) (n : Name) (c : CState) (k : KState) : Outcome St :=
  if c.ty ≠ .tss then .ok (set x n (.cons c.latest) (.kstate k)) else .ok x

theorem installs_finish {s0 x : St} {n : Name} {c : CState} (k : KState)
    (hC : getClient x n = some c) (hI : InitialisedFor x n c s0.now) (hF : Frame s0 x n)
    (hT : c.ty = .tss → x = set s0 n .cs (.cstate c)) :
    ∃ s', putCons x n c k = .ok s' ∧ Installs s0 s' n c k := by
  unfold putCons
  by_cases ht : c.ty = .tss
  · rw [if_neg (not_not_intro ht)]
    exact ⟨x, rfl, hC, fun h => absurd ht h, hI, hF, hT⟩
  · rw [if_pos ht]
    exact ⟨_, rfl, by rw [getClient_set_cons]; exact hC, fun _ => getCons_set_cons _ _ _ _,
      initialised_set (Or.inr ⟨_, rfl⟩) hI, hF.trans frame_set, fun h => absurd h ht⟩

theorem writeMeta_tss {c : CState} {s : St} {n : Name} (h : c.ty = .tss) : writeMeta s n c = s := by
  unfold writeMeta; rw [h]

theorem installs_upgrade (s0 : St) (n : Name) (c : CState) (k : KState) :
    ∃ s', putCons (set (writeMeta s0 n c) n .cs (.cstate c)) n c k = .ok s' ∧ Installs s0 s' n c k :=
  installs_finish k (getClient_set_cs _ _ _) (initialised_set (Or.inl rfl) (writeMeta_initialised s0 n c))
    (frame_writeMeta.trans frame_set)
    (fun ht => by rw [writeMeta_tss ht])

theorem initClient_of_ne {c : CState} (ht : c.ty ≠ .tss) (s : St) (n : Name) (k : KState) :
    initClient s n c k =
      if k.ty ≠ c.ty then .err "consensus-type" else if !c.initOk then .err "init" else .ok (writeMeta s n c) := by
  unfold initClient
  cases hc : c.ty <;> first | rfl | exact absurd hc ht

theorem initClient_spec (s : St) (n : Name) (c : CState) (k : KState) :
    (¬ InitOk c k ∧ ∃ e, initClient s n c k = .err e) ∨
    (InitOk c k ∧ initClient s n c k = .ok (writeMeta s n c)) := by
  by_cases ht : c.ty = .tss
  · exact Or.inr ⟨fun h => absurd ht h, by rw [writeMeta_tss ht]; unfold initClient; rw [ht]⟩
  · rw [initClient_of_ne ht]
    by_cases hk : k.ty = c.ty
    · rw [if_neg (not_not_intro hk)]
      cases hi : c.initOk
      · exact Or.inl ⟨fun h => Bool.noConfusion ((h ht).2.symm.trans hi), _, rfl⟩
      · exact Or.inr ⟨fun _ => ⟨hk, hi⟩, rfl⟩
    · rw [if_pos hk]; exact Or.inl ⟨fun h => hk (h ht).1, _, rfl⟩

theorem createClient_spec (s : St) (n : Name) (c : CState) (k : KState) :
    (¬ InitOk c k ∧ ∃ e, createClient s n c k = .err e) ∨
    (InitOk c k ∧ ∃ s', createClient s n c k = .ok s' ∧ Installs s s' n c k) := by
  unfold createClient
  rcases initClient_spec (set s n .cs (.cstate c)) n c k with ⟨hno, e, he⟩ | ⟨hok, he⟩ <;> rw [he]
  · exact Or.inl ⟨hno, e, rfl⟩
  · exact Or.inr ⟨hok, installs_finish k (by rw [getClient_writeMeta, getClient_set_cs]) (writeMeta_initialised _ n c)
      (frame_set.trans frame_writeMeta)
      writeMeta_tss⟩

theorem bscPrune_spec (s : St) (n : Name) (c : CState) :
    ((∃ h, minHeight (consHeights n s.kv) = some h ∧ ∀ k0, getCons s n h = some k0 → k0.ty ≠ .bsc) ∧
      ∃ e, bscPrune s n c = .err e) ∨
    ∃ sp, bscPrune s n c = .ok sp ∧ Frame s sp n := by
  unfold bscPrune
  cases hm : minHeight (consHeights n s.kv) with
  | none => exact Or.inr ⟨s, rfl, Frame.refl⟩
  | some h =>
    dsimp only
    cases hg : getCons s n h with
    | none => exact Or.inl ⟨⟨h, rfl, fun k0 h0 => nomatch hg.symm.trans h0⟩, _, rfl⟩
    | some k0 =>
      dsimp only
      by_cases hk : k0.ty = .bsc
      · rw [if_neg (not_not_intro hk)]
        by_cases hexp : k0.ts + c.trust < secs s.now
        · exact Or.inr ⟨_, if_pos hexp, frame_del⟩
        · exact Or.inr ⟨s, if_neg hexp, Frame.refl⟩
      · exact Or.inl ⟨⟨h, rfl, fun k1 h1 => by rw [hg] at h1; cases h1; exact hk⟩, _, if_pos hk⟩

/-- the store `UpgradeState` writes the new metadata on: `s`, but BSC first prunes an expired earliest consensus state
    and deletes all signer records -/
def UpgradeBase (s : St) (n : Name) (c : CState) (s0 : St) : Prop :=
  (c.ty ≠ .bsc → s0 = s) ∧ Frame s s0 n

/-- what `UpgradeState` asks for: only BSC checks `initOk` and prunes here -/
def UpgradeOk (s : St) (n : Name) (c : CState) (k : KState) : Prop :=
  (c.ty ≠ .tss → k.ty = c.ty) ∧ (c.ty = .bsc → c.initOk = true ∧ ∃ sp, bscPrune s n c = .ok sp)

theorem upgradeState_spec (s : St) (n : Name) (c : CState) (k : KState) :
    (¬ UpgradeOk s n c k ∧ ∃ e, upgradeState s n c k = .err e) ∨
    (UpgradeOk s n c k ∧ ∃ s0, UpgradeBase s n c s0 ∧ upgradeState s n c k = .ok (writeMeta s0 n c)) := by
  unfold upgradeState UpgradeOk
  cases hc : c.ty
  case tss =>
    exact Or.inr ⟨⟨fun h => absurd rfl h, nofun⟩, s, ⟨fun _ => rfl, Frame.refl⟩, by rw [writeMeta_tss hc]⟩
  case bsc =>
    dsimp only
    by_cases hk : k.ty = .bsc
    · rw [if_neg (not_not_intro hk)]
      cases hi : c.initOk
      · exact Or.inl ⟨(fun h => nomatch (h.2 rfl).1), _, rfl⟩
      · rcases bscPrune_spec s n c with ⟨_, e, he⟩ | ⟨sp, he, hsp⟩ <;> rw [he]
        · exact Or.inl ⟨(fun h => nomatch (h.2 rfl).2), e, rfl⟩
        · exact Or.inr ⟨⟨fun _ => hk, fun _ => ⟨rfl, sp, rfl⟩⟩, delSigners sp n,
            ⟨fun h => absurd hc h, hsp.trans frame_delSigners⟩, rfl⟩
    · exact Or.inl ⟨fun h => hk (h.1 (by decide)), _, if_pos hk⟩
  all_goals
    by_cases hk : k.ty = c.ty <;> rw [hc] at hk
    · exact Or.inr ⟨⟨fun _ => hk, nofun⟩, s, ⟨fun _ => rfl, Frame.refl⟩, if_neg (not_not_intro hk)⟩
    · exact Or.inl ⟨fun h => hk (h.1 (by decide)), _, if_pos hk⟩

/-- the kind's guard on the stored client, and the store `s0` it installs on -/
def Base (s : St) (p : Proposal) (c : CState) (s0 : St) : Prop :=
  match p.kind with
  | .create => p.name ≠ s.self ∧ getClient s p.name = none ∧ s0 = s
  | .upgrade => (∃ old, getClient s p.name = some old ∧ old.ty = c.ty) ∧ UpgradeBase s p.name c s0
  | .toggle => (∃ old, getClient s p.name = some old ∧ old.ty ≠ c.ty) ∧ s0 = clearName s p.name

theorem base_frame {s s0 : St} {p : Proposal} {c : CState} (h : Base s p c s0) : Frame s s0 p.name := by
  unfold Base at h
  cases hk : p.kind <;> rw [hk] at h
  · cases h.2.2; exact Frame.refl
  · exact h.2.2
  · cases h.2; exact frame_clearName

/-- what `handle` required of an accepted proposal with client state `c` and consensus state `k`, and what it did -/
structure Accepted (s : St) (p : Proposal) (c : CState) (k : KState) (s0 s' : St) : Prop where
  cs : p.cs = some c
  ks : p.ks = some k
  ty : c.ty ≠ .tss → k.ty = c.ty
  /-- `Initialize` (create, toggle) runs the initial checks of every type, `UpgradeState` only those of BSC -/
  init : c.ty ≠ .tss → c.ty = .bsc ∨ p.kind ≠ .upgrade → c.initOk = true
  base : Base s p c s0
  inst : Installs s0 s' p.name c k

/-- for every kind and every client type; there is no third case: no handler panics -/
theorem handle_spec (s : St) (p : Proposal) :
    (∃ e, handle s p = .err e) ∨ ∃ c k s0 s', handle s p = .ok s' ∧ Accepted s p c k s0 s' := by
  unfold handle
  cases hk : p.kind <;> dsimp only
  · -- create
    by_cases hself : p.name = s.self
    · exact Or.inl ⟨_, if_pos hself⟩
    rw [if_neg hself]
    cases ho : getClient s p.name with
    | some old => exact Or.inl ⟨_, rfl⟩
    | none =>
      cases hc : p.cs with
      | none => exact Or.inl ⟨_, rfl⟩
      | some c =>
        cases hks : p.ks with
        | none => exact Or.inl ⟨_, rfl⟩
        | some k =>
          rcases createClient_spec s p.name c k with ⟨_, e, he⟩ | ⟨hok, s', he, hi⟩
          · exact Or.inl ⟨e, he⟩
          · exact Or.inr ⟨c, k, s, s', he, hc, hks, fun ht => (hok ht).1, fun ht _ => (hok ht).2,
              by unfold Base; rw [hk]; exact ⟨hself, ho, rfl⟩, hi⟩
  · -- upgrade
    cases hc : p.cs with
    | none => exact Or.inl ⟨_, rfl⟩
    | some c =>
      cases hks : p.ks with
      | none => exact Or.inl ⟨_, rfl⟩
      | some k =>
        unfold upgradeClient
        cases ho : getClient s p.name with
        | none => exact Or.inl ⟨_, rfl⟩
        | some old =>
          dsimp only
          by_cases hty : old.ty = c.ty
          · rw [if_neg (not_not_intro hty)]
            rcases upgradeState_spec s p.name c k with ⟨_, e, he⟩ | ⟨hok, s0, hb, he⟩ <;> rw [he]
            · exact Or.inl ⟨_, rfl⟩
            · obtain ⟨s', hs', hi⟩ := installs_upgrade s0 p.name c k
              exact Or.inr ⟨c, k, s0, s', hs', hc, hks, hok.1,
                fun _ hb' => (hok.2 (hb'.resolve_right (fun h => h hk))).1,
                by unfold Base; rw [hk]; exact ⟨⟨old, ho, hty⟩, hb⟩, hi⟩
          · exact Or.inl ⟨_, if_pos hty⟩
  · -- toggle
    cases ho : getClient s p.name with
    | none => exact Or.inl ⟨_, rfl⟩
    | some old =>
      cases hc : p.cs with
      | none => exact Or.inl ⟨_, rfl⟩
      | some c =>
        cases hks : p.ks with
        | none => exact Or.inl ⟨_, rfl⟩
        | some k =>
          unfold toggleClient
          rw [ho]
          by_cases hty : old.ty = c.ty
          · exact Or.inl ⟨_, if_pos hty⟩
          · rcases createClient_spec (clearName s p.name) p.name c k with ⟨_, e, he⟩ | ⟨hok, s', he, hi⟩
            · exact Or.inl ⟨e, (if_neg hty).trans he⟩
            · exact Or.inr ⟨c, k, _, s', (if_neg hty).trans he, hc, hks, fun ht => (hok ht).1, fun ht _ => (hok ht).2,
                by unfold Base; rw [hk]; exact ⟨⟨old, ho, hty⟩, rfl⟩, hi⟩

theorem handle_ok {s s' : St} {p : Proposal} (h : handle s p = .ok s') : ∃ c k s0, Accepted s p c k s0 s' := by
  rcases handle_spec s p with ⟨e, he⟩ | ⟨c, k, s0, s'', he, ha⟩
  · rw [he] at h; cases h
  · cases he.symm.trans h; exact ⟨c, k, s0, ha⟩

theorem govExec_accepted {s s' : St} {p : Proposal} {c : CState} (hc : p.cs = some c)
    (h : govExec s p = (s', Res.ok)) : ∃ k s0, Accepted s p c k s0 s' := by
  obtain ⟨c', k, s0, ha⟩ := handle_ok (govExec_ok h).2
  cases hc.symm.trans ha.cs
  exact ⟨k, s0, ha⟩

theorem govExec_err_or_ok (s : St) (p : Proposal) :
    govExec s p = (s, Res.err) ∨
    ∃ s', validateBasic p = true ∧ handle s p = .ok s' ∧ govExec s p = (s', Res.ok) := by
  cases hv : validateBasic p
  · exact Or.inl (govExec_of_invalid hv s)
  · rw [govExec_of_valid hv]
    rcases handle_spec s p with ⟨e, he⟩ | ⟨_, _, _, s', he, _⟩ <;> rw [he]
    · exact Or.inl rfl
    · exact Or.inr ⟨s', rfl, rfl, rfl⟩

/-- a create is accepted only under a valid, unused chain name that is not this chain's own name -/
theorem create_only_fresh_valid (s s' : St) (p : Proposal) (hk : p.kind = .create)
    (h : govExec s p = (s', Res.ok)) : validName p.name = true ∧ p.name ≠ s.self ∧ getClient s p.name = none := by
  obtain ⟨hv, hh⟩ := govExec_ok h
  obtain ⟨_, _, _, ha⟩ := handle_ok hh
  have hb := ha.base
  unfold Base at hb; rw [hk] at hb
  exact ⟨(validateBasic_true hv).1, hb.1, hb.2.1⟩

/-- an accepted proposal carried a client state that passes `Validate()` and a consensus state that passes
    `ValidateBasic()`; both unpack -/
theorem accepted_wellformed (s s' : St) (p : Proposal) (h : govExec s p = (s', Res.ok)) :
    ∃ c k, p.cs = some c ∧ p.ks = some k ∧ c.valid = true ∧ k.vb = true := by
  obtain ⟨hv, _⟩ := govExec_ok h
  obtain ⟨_, ⟨c, hc, hcv⟩, ⟨k, hk, hkv⟩⟩ := validateBasic_true hv
  exact ⟨c, k, hc, hk, hcv, hkv⟩

/-- an upgrade keeps the client type -/
theorem upgrade_keeps_type (s s' : St) (p : Proposal) (c : CState) (hk : p.kind = .upgrade) (hc : p.cs = some c)
    (h : govExec s p = (s', Res.ok)) : ∃ old, getClient s p.name = some old ∧ old.ty = c.ty := by
  obtain ⟨_, _, ha⟩ := govExec_accepted hc h
  have hb := ha.base
  unfold Base at hb; rw [hk] at hb
  exact hb.1

/-- a toggle changes the client type -/
theorem toggle_changes_type (s s' : St) (p : Proposal) (c : CState) (hk : p.kind = .toggle) (hc : p.cs = some c)
    (h : govExec s p = (s', Res.ok)) : ∃ old, getClient s p.name = some old ∧ old.ty ≠ c.ty := by
  obtain ⟨_, _, ha⟩ := govExec_accepted hc h
  have hb := ha.base
  unfold Base at hb; rw [hk] at hb
  exact hb.1

/-- after an accepted create / upgrade / toggle the stored client state is the proposal's,
    the consensus state at its latest height is the proposal's (for every kind: unless the client is a TSS client, which
    has no consensus states — see `tss_install_no_consensus`), the consensus state
    has the client's type, and the client store holds the metadata the (new) type requires, processed at `s.now`. -/
theorem installs_exactly (s s' : St) (p : Proposal) (c : CState) (k : KState) (hc : p.cs = some c) (hks : p.ks = some k)
    (h : govExec s p = (s', Res.ok)) :
    getClient s' p.name = some c ∧
    (c.ty ≠ .tss → getCons s' p.name c.latest = some k) ∧
    (c.ty ≠ .tss → k.ty = c.ty) ∧
    InitialisedFor s' p.name c s.now ∧ s'.now = s.now := by
  obtain ⟨k', s0, ha⟩ := govExec_accepted hc h
  cases hks.symm.trans ha.ks
  have hf := base_frame ha.base
  exact ⟨ha.inst.client, ha.inst.cons, ha.ty, hf.1 ▸ ha.inst.init, (hf.trans ha.inst.frame).1⟩

/-- toggling to a TSS client leaves exactly the client state in the client store: nothing of the replaced client, and
    NO consensus state, whatever consensus state the proposal carried (a TSS client has none; one at height 0-0 would
    make the client genesis of an export invalid) -/
theorem toggle_tss_no_consensus (s s' : St) (p : Proposal) (c : CState) (k : KState) (hkind : p.kind = .toggle)
    (hc : p.cs = some c) (hks : p.ks = some k) (hct : c.ty = .tss) (h : govExec s p = (s', Res.ok)) :
    ∀ key, get s' p.name key = if key = .cs then some (.cstate c) else none := by
  obtain ⟨_, _, ha⟩ := govExec_accepted hc h
  have hb := ha.base
  unfold Base at hb; rw [hkind] at hb
  cases hb.2
  intro key
  rw [ha.inst.tss hct, get_set, get_clearName, if_pos rfl]
  simp only [Prod.mk.injEq, true_and, eq_comm]

def NoCons (s : St) (n : Name) : Prop := ∀ h, get s n (.cons h) = none

/-- an accepted create / upgrade / toggle that installs a TSS client adds no
    consensus state, whatever consensus state the proposal carries: after a toggle the client store holds none at all;
    after a create or an upgrade it holds none if it held none before (a fresh name; a TSS client that never had one). -/
theorem tss_install_no_consensus (s s' : St) (p : Proposal) (c : CState) (k : KState)
    (hc : p.cs = some c) (hks : p.ks = some k) (hct : c.ty = .tss) (h : govExec s p = (s', Res.ok))
    (hpre : p.kind = .toggle ∨ NoCons s p.name) : NoCons s' p.name := by
  by_cases hkind : p.kind = .toggle
  · intro hgt
    rw [toggle_tss_no_consensus s s' p c k hkind hc hks hct h, if_neg nofun]
  · obtain ⟨_, s0, ha⟩ := govExec_accepted hc h
    -- create and upgrade write the client state on `s` itself
    have hs0 : s0 = s := by
      have hb := ha.base
      unfold Base at hb
      cases hk : p.kind <;> rw [hk] at hb
      · exact hb.2.2
      · exact hb.2.1 (by rw [hct]; decide)
      · exact absurd hk hkind
    intro hgt
    rw [ha.inst.tss hct, hs0, get_set, if_neg (by intro h; cases h)]
    exact hpre.resolve_left hkind hgt

theorem lt_iff (a b : Height) : a.lt b = true ↔ a.rev < b.rev ∨ (a.rev = b.rev ∧ a.h < b.h) := by
  simp [Height.lt]

theorem lt_false_iff (a b : Height) : a.lt b = false ↔ ¬ (a.rev < b.rev ∨ (a.rev = b.rev ∧ a.h < b.h)) := by
  rw [← lt_iff]; simp

theorem lt_irrefl (h : Height) : h.lt h = false :=
  (lt_false_iff h h).2 fun h' => h'.elim (Nat.lt_irrefl _) (fun h2 => Nat.lt_irrefl _ h2.2)

/-- the consensus state is recent enough for the client's trusting period (tm: strict, as `IsExpired`) -/
def Fresh (now : Nat) (c : CState) (k : KState) : Prop :=
  match c.ty with
  | .tm => now < k.ts + c.trust
  | .tss => True
  | _ => secs now ≤ k.ts + c.trust

theorem status_active (s : St) (n : Name) (c : CState) (k : KState)
    (hk : c.ty ≠ .tss → getCons s n c.latest = some k ∧ k.ty = c.ty) (hf : Fresh s.now c k) :
    status s n c = .active := by
  unfold Fresh at hf
  cases hc : c.ty <;> rw [hc] at hf hk
  case tss => simp only [status, hc]
  case tm =>
    obtain ⟨h1, h2⟩ := hk (by decide)
    simp only [status, hc, h1, if_neg (not_not_intro h2), if_neg (Nat.not_le.2 hf)]
  all_goals
    obtain ⟨h1, h2⟩ := hk (by decide)
    simp only [status, hc, h1, if_neg (not_not_intro h2), if_neg (Nat.not_lt.2 hf)]

/-- the delay of the client type has passed for height `h` (tss: the proof names the TSS address) -/
def DelayPassed (s : St) (n : Name) (c : CState) (h : Height) (proof : String) : Prop :=
  match c.ty with
  | .tm => ∃ p, get s n (.pt h) = some (.num p) ∧ p + c.delay ≤ s.now
  | .tss => proof = c.x1
  | _ => c.delay ≤ c.latest.h - h.h

/-- a true membership at a height not above the latest, whose consensus state is stored and whose delay has passed,
    verifies (membership itself is the abstract boolean `true`) -/
theorem verify_ok (s : St) (n : Name) (c : CState) (k : KState) (h : Height) (proof : String)
    (hc : getClient s n = some c) (hlt : c.latest.lt h = false)
    (hk : c.ty ≠ .tss → getCons s n h = some k ∧ k.ty = c.ty) (hd : DelayPassed s n c h proof) :
    verify s n h true proof = some true := by
  unfold DelayPassed at hd
  cases hty : c.ty <;> rw [hty] at hd hk
  case tss => simp only [verify, hc, hty, show proof = c.x1 from hd, beq_self_eq_true]
  case tm =>
    obtain ⟨h1, h2⟩ := hk (by decide)
    obtain ⟨p, hp, hle⟩ := hd
    simp only [verify, hc, hty, hlt, h1, hp, Bool.false_eq_true, if_false, if_neg (not_not_intro h2),
      if_neg (Nat.not_lt.2 hle)]
  all_goals
    obtain ⟨h1, h2⟩ := hk (by decide)
    simp only [verify, hc, hty, hlt, h1, Bool.false_eq_true, if_false, if_neg (not_not_intro h2),
      if_neg (Nat.not_lt.2 hd)]

theorem getCons_withNow (s : St) (t : Nat) (n : Name) (h : Height) : getCons { s with now := t } n h = getCons s n h := rfl

/-- after an accepted create / upgrade / toggle whose consensus state is fresh the client is Active, and
    at every later block time `t` (no other change) it stays Active while fresh; a true membership at the installed
    height verifies: for Tendermint as soon as the time delay has passed since installation, for TSS when the proof
    names the TSS address, for BSC / ETH when the block delay is zero (for a positive block delay see
    `usable_after_blocks`: the delay is counted in blocks of the counterparty, i.e. it passes through updates). -/
theorem usable (s s' : St) (p : Proposal) (c : CState) (k : KState) (hc : p.cs = some c) (hks : p.ks = some k)
    (h : govExec s p = (s', Res.ok)) :
    (Fresh s.now c k → status s' p.name c = .active) ∧
    (∀ t, Fresh t c k → status { s' with now := t } p.name c = .active) ∧
    (c.ty = .tm → ∀ t, s.now + c.delay ≤ t → verify { s' with now := t } p.name c.latest true "" = some true) ∧
    (c.ty = .tss → verify s' p.name c.latest true c.x1 = some true) ∧
    ((c.ty = .bsc ∨ c.ty = .eth) → c.delay = 0 → verify s' p.name c.latest true "" = some true) := by
  obtain ⟨hC, hK, hT, hI, hN⟩ := installs_exactly s s' p c k hc hks h
  have hk' : c.ty ≠ .tss → getCons s' p.name c.latest = some k ∧ k.ty = c.ty :=
    fun hne => ⟨hK hne, hT hne⟩
  refine ⟨fun hf => status_active s' p.name c k hk' (by rw [hN]; exact hf),
          fun t hf => status_active _ p.name c k hk' hf, ?_, ?_, ?_⟩
  · intro hty t ht
    apply verify_ok { s' with now := t } p.name c k c.latest "" hC (lt_irrefl _) hk'
    unfold DelayPassed; rw [hty]
    unfold InitialisedFor at hI; rw [hty] at hI
    exact ⟨s.now, hI.1, ht⟩
  · intro hty
    apply verify_ok s' p.name c k c.latest c.x1 hC (lt_irrefl _) hk'
    unfold DelayPassed; rw [hty]
  · intro hty hd
    apply verify_ok s' p.name c k c.latest "" hC (lt_irrefl _) hk'
    unfold DelayPassed
    rcases hty with h1 | h1 <;> rw [h1, hd] <;> exact Nat.zero_le _

/-- BSC / ETH: once updates have moved the client `delay` blocks past the installed height `h` (its consensus state
    still stored), a true membership at the installed height verifies -/
theorem usable_after_blocks (s : St) (n : Name) (c2 : CState) (k : KState) (h : Height)
    (hty : c2.ty = .bsc ∨ c2.ty = .eth) (hc : getClient s n = some c2) (hk : getCons s n h = some k) (hkt : k.ty = c2.ty)
    (hrev : c2.latest.rev = h.rev) (hblocks : h.h + c2.delay ≤ c2.latest.h) :
    verify s n h true "" = some true := by
  refine verify_ok s n c2 k h "" hc ?_ (fun _ => ⟨hk, hkt⟩) ?_
  · exact (lt_false_iff _ _).2 fun h' => h'.elim (fun h1 => Nat.lt_irrefl _ (hrev ▸ h1))
      (fun h2 => Nat.not_lt.2 (Nat.le_trans (Nat.le_add_right _ _) hblocks) h2.2)
  · unfold DelayPassed
    rcases hty with h1 | h1 <;> rw [h1] <;> exact Nat.le_sub_of_add_le' hblocks

def updated (s : St) (u : Update) (c : CState) (h : Height) : St :=
  match u.newK with
  | some k => set (set (applyDelta s u.name u.delta) u.name .cs (.cstate (storedAfterUpdate c u h))) u.name (.cons h)
      (.kstate k)
  | none => set (applyDelta s u.name u.delta) u.name .cs (.cstate (storedAfterUpdate c u h))

theorem getClient_updated (s : St) (u : Update) (c : CState) (h : Height) :
    getClient (updated s u c h) u.name = some (storedAfterUpdate c u h) := by
  unfold updated
  cases u.newK with
  | none => exact getClient_set_cs _ _ _
  | some k => exact (getClient_set_cons _ _ _ _ _).trans (getClient_set_cs _ _ _)

theorem getCons_updated (s : St) (u : Update) (c : CState) (h : Height) (k : KState) (hk : u.newK = some k) :
    getCons (updated s u c h) u.name h = some k := by
  unfold updated
  rw [hk]
  exact getCons_set_cons _ _ _ _

theorem frame_applyDelta (n : Name) : ∀ (d : List (Key × Option Val)) (s : St), Frame s (applyDelta s n d) n
  | [], s => Frame.refl
  | (k, some v) :: r, s => frame_set.trans (frame_applyDelta n r _)
  | (k, none) :: r, s => frame_del.trans (frame_applyDelta n r _)

theorem frame_updated (s : St) (u : Update) (c : CState) (h : Height) : Frame s (updated s u c h) u.name := by
  unfold updated
  cases u.newK with
  | none => exact (frame_applyDelta _ _ s).trans frame_set
  | some k => exact ((frame_applyDelta _ _ s).trans frame_set).trans frame_set

theorem handleUpdate_ok {s s' : St} {u : Update} (h : handleUpdate s u = .ok s') :
    ∃ c hgt, authRelayer s u.name u.signer = true ∧ getClient s u.name = some c ∧ checkMsg c u.signer = true ∧
      status s u.name c = .active ∧ u.check = true ∧ u.hdr.height = some hgt ∧ s' = updated s u c hgt := by
  unfold handleUpdate at h
  obtain ⟨ha, h⟩ := ite_err_eq_ok.mp h
  cases hc : getClient s u.name <;> rw [hc] at h
  · cases h
  rename_i c
  obtain ⟨hm, h⟩ := ite_err_eq_ok.mp h
  unfold updateClient at h
  obtain ⟨hst, h⟩ := ite_err_eq_ok.mp h
  obtain ⟨hck, h⟩ := ite_err_eq_ok.mp h
  cases hh : u.hdr.height <;> rw [hh] at h
  · cases h
  rename_i hgt
  refine ⟨c, hgt, by simpa using ha, rfl, by simpa using hm, by simpa using hst, by simpa using hck, rfl, ?_⟩
  unfold updated
  cases hk : u.newK <;> rw [hk] at h <;> exact (Outcome.ok.inj h).symm

theorem txExec_cases (s : St) (u : Update) :
    (txExec s u).1 = s ∨ (handleUpdate s u = .ok (txExec s u).1 ∧ (txExec s u).2 = Res.ok) := by
  unfold txExec
  cases (u.signerOk && u.hdr.vb && validName u.name)
  · exact Or.inl rfl
  · exact commit_cases s _

/-- for all four client types: a header that passes the client's verification (`check`), is well-formed, has a
    non-nil height and is submitted by a registered relayer that the client accepts (`CheckMsg`: the TSS address for a
    TSS client) to an Active client is accepted, whatever the client type; the new client state is stored (for Tendermint
    with the latest height `maxLex` of the old one and the header's, see `storedAfterUpdate`) and the new
    consensus state (if any) is stored at the header's height. -/
theorem update_all_types (s : St) (u : Update) (c : CState) (h : Height)
    (hs : u.signerOk = true) (hvb : u.hdr.vb = true) (hn : validName u.name = true)
    (hauth : authRelayer s u.name u.signer = true) (hc : getClient s u.name = some c)
    (hmsg : checkMsg c u.signer = true) (hact : status s u.name c = .active) (hchk : u.check = true)
    (hh : u.hdr.height = some h) :
    ∃ s', txExec s u = (s', Res.ok) ∧ getClient s' u.name = some (storedAfterUpdate c u h) ∧
          (∀ k, u.newK = some k → getCons s' u.name h = some k) := by
  refine ⟨updated s u c h, ?_, getClient_updated s u c h, getCons_updated s u c h⟩
  unfold txExec handleUpdate updateClient updated
  rw [hs, hvb, hn, hauth, hc]; dsimp only; rw [hmsg, hact, hchk, hh]
  cases u.newK <;> rfl

/-- `CheckMsg`: only a TSS client restricts the signer, to its TSS address -/
theorem update_tss_signer (c : CState) (signer : String) (ht : c.ty = .tss) :
    checkMsg c signer = true ↔ c.x1 = signer := by
  simp [checkMsg, ht]
theorem update_other_signer (c : CState) (signer : String) (ht : c.ty ≠ .tss) : checkMsg c signer = true := by
  unfold checkMsg; cases h : c.ty <;> simp_all

/-- the defect witness (F10/3) in the model: a header whose `GetHeight()` is nil (the TSS header before fix 6670a77) makes
    the otherwise valid update panic; the transaction runner turns that into a failed transaction -/
theorem update_nil_height_panics (s : St) (u : Update) (c : CState)
    (hs : u.signerOk = true) (hvb : u.hdr.vb = true) (hn : validName u.name = true)
    (hauth : authRelayer s u.name u.signer = true) (hc : getClient s u.name = some c)
    (hmsg : checkMsg c u.signer = true) (hact : status s u.name c = .active) (hchk : u.check = true)
    (hh : u.hdr.height = none) : txExec s u = (s, Res.panic) := by
  unfold txExec handleUpdate updateClient
  simp [hs, hvb, hn, hauth, hc, hmsg, hact, hchk, hh, commit]

/-- an accepted update came from a registered relayer accepted by the client, for an Active client -/
theorem update_accepted_only_if (s s' : St) (u : Update) (h : txExec s u = (s', Res.ok)) :
    validName u.name = true ∧ authRelayer s u.name u.signer = true ∧
    ∃ c, getClient s u.name = some c ∧ checkMsg c u.signer = true ∧ status s u.name c = .active ∧ u.check = true := by
  unfold txExec at h
  cases hv : (u.signerOk && u.hdr.vb && validName u.name) <;> rw [hv] at h
  · cases h
  · have hh := commit_ok h
    obtain ⟨c, _, ha, hc, hm, hst, hck, _⟩ := handleUpdate_ok hh
    exact ⟨((Bool.and_eq_true _ _).mp hv).2, ha, c, hc, hm, hst, hck⟩

theorem relayerExec_cases (s : St) (p : RelayerProposal) :
    relayerExec s p = (s, Res.err) ∨ ∃ r, relayerExec s p = ({ s with rel := r }, Res.ok) := by
  unfold relayerExec
  split
  · exact Or.inl rfl
  · exact Or.inr ⟨_, rfl⟩

/-- a proposal, relayer registration or update that does not succeed leaves the whole state
    (every client, its consensus states and metadata, the relayer registry) exactly as it was -/
theorem failure_is_noop (s : St) (o : Op) (h : (step s o).2 ≠ Res.ok) : (step s o).1 = s := by
  cases o with
  | time ns => exact absurd rfl h
  | prop p =>
    rcases govExec_err_or_ok s p with h' | ⟨_, _, _, h'⟩
    · exact congrArg Prod.fst h'
    · exact absurd (congrArg Prod.snd h') h
  | relayer p =>
    rcases relayerExec_cases s p with h' | ⟨_, h'⟩
    · exact congrArg Prod.fst h'
    · exact absurd (congrArg Prod.snd h') h
  | update u => exact (txExec_cases s u).resolve_right (fun h' => h h'.2)
  | restart => rfl
  | dry o => rfl

/-- restates the modelling decision: `Op.restart` is the identity of `step` by definition. That export / import of the
    genesis keeps the state the property talks about is checked on the code, by the `restart` op of the harness
    (ExportGenesis → JSON → Validate → emptied module store → InitGenesis, dumps compared), not proved here -/
theorem restart_identity (s : St) : step s .restart = (s, Res.ok) := rfl

/-- restates the modelling decision: `Op.dry` is the identity of `step` by definition (a dropped context keeps nothing) -/
theorem dry_identity (s : St) (o : Op) : step s (.dry o) = (s, Res.ok) := rfl

/-- the accepted operations of a history -/
def accepted (s : St) : List Op → List Op
  | [] => []
  | o :: r => if (step s o).2 = Res.ok then o :: accepted (step s o).1 r else accepted s r

theorem run_fst_cons (s : St) (o : Op) (r : List Op) : (run s (o :: r)).1 = (run (step s o).1 r).1 := by
  simp [run]

/-- over all histories: the final state is the one reached by the accepted operations alone — rejected proposals
    and failed updates, wherever they are interleaved, leave no trace -/
theorem run_failures_noop (s : St) (ops : List Op) : (run s ops).1 = (run s (accepted s ops)).1 := by
  induction ops generalizing s with
  | nil => rfl
  | cons o r ih =>
    rw [run_fst_cons]
    unfold accepted
    by_cases h : (step s o).2 = Res.ok
    · rw [if_pos h, run_fst_cons]; exact ih _
    · rw [if_neg h, failure_is_noop s o h]; exact ih s

theorem govExec_of_handle {s s' : St} {p : Proposal} {c : CState} {k : KState} (hc : p.cs = some c) (hks : p.ks = some k)
    (hn : validName p.name = true) (hv : c.valid = true) (hkv : k.vb = true) (hh : handle s p = .ok s') :
    ∃ s', govExec s p = (s', Res.ok) := by
  have hvb : validateBasic p = true := by simp [validateBasic, hc, hks, hn, hv, hkv]
  exact ⟨s', by rw [govExec_of_valid hvb, hh]; rfl⟩

/-- toggle, all 12 ordered pairs of distinct types: a well-formed toggle proposal (valid name and client state,
    consensus state of the new type, the new type's own initial checks pass) for an existing client of ANY other type
    is accepted.  (False before fixes e081e86 and 0be1a17 whenever the old type is Tendermint — F10/1.) -/
theorem toggle_accepts (s : St) (p : Proposal) (c old : CState) (k : KState) (hkind : p.kind = .toggle)
    (hc : p.cs = some c) (hks : p.ks = some k) (hn : validName p.name = true) (hv : c.valid = true) (hkv : k.vb = true)
    (ho : getClient s p.name = some old) (hne : old.ty ≠ c.ty)
    (hk : c.ty ≠ .tss → k.ty = c.ty ∧ c.initOk = true) : ∃ s', govExec s p = (s', Res.ok) := by
  obtain ⟨_, s', he, _⟩ := (createClient_spec (clearName s p.name) p.name c k).resolve_left (fun h => h.1 hk)
  apply govExec_of_handle hc hks hn hv hkv
  unfold handle toggleClient
  rw [hkind]; dsimp only; rw [ho, hc, hks]
  exact (if_neg hne).trans he

/-- the 4 pairs with equal types are rejected by toggle, and change nothing -/
theorem toggle_same_type_rejected (s : St) (p : Proposal) (c old : CState) (hkind : p.kind = .toggle)
    (hc : p.cs = some c) (ho : getClient s p.name = some old) (he : old.ty = c.ty) : govExec s p = (s, Res.err) := by
  rcases govExec_err_or_ok s p with h | ⟨s', _, _, h⟩
  · exact h
  · obtain ⟨old', ho', hty⟩ := toggle_changes_type s s' p c hkind hc h
    cases ho.symm.trans ho'; exact absurd he hty

/-- the 12 pairs with different types are rejected by upgrade, and change nothing -/
theorem upgrade_other_type_rejected (s : St) (p : Proposal) (c old : CState) (hkind : p.kind = .upgrade)
    (hc : p.cs = some c) (ho : getClient s p.name = some old) (hne : old.ty ≠ c.ty) : govExec s p = (s, Res.err) := by
  rcases govExec_err_or_ok s p with h | ⟨s', _, _, h⟩
  · exact h
  · obtain ⟨old', ho', hty⟩ := upgrade_keeps_type s s' p c hkind hc h
    cases ho.symm.trans ho'; exact absurd hty hne

/-- upgrade, the 4 equal-type pairs: accepted for a well-formed proposal (for BSC: the earliest stored consensus
    state, which `UpgradeState` inspects for pruning, is a BSC one) -/
theorem upgrade_accepts (s : St) (p : Proposal) (c old : CState) (k : KState) (hkind : p.kind = .upgrade)
    (hc : p.cs = some c) (hks : p.ks = some k) (hn : validName p.name = true) (hv : c.valid = true) (hkv : k.vb = true)
    (ho : getClient s p.name = some old) (he : old.ty = c.ty)
    (hk : c.ty ≠ .tss → k.ty = c.ty ∧ c.initOk = true)
    (hprune : c.ty = .bsc → ∀ e, minHeight (consHeights p.name s.kv) = some e →
                ∃ k0, getCons s p.name e = some k0 ∧ k0.ty = .bsc) :
    ∃ s', govExec s p = (s', Res.ok) := by
  have hok : UpgradeOk s p.name c k := ⟨fun ht => (hk ht).1, fun hb => ⟨(hk (by rw [hb]; decide)).2, by
    rcases bscPrune_spec s p.name c with ⟨⟨e0, hm, hno⟩, _⟩ | ⟨sp, h', _⟩
    · obtain ⟨k0, hk0, hk0t⟩ := hprune hb e0 hm
      exact absurd hk0t (hno k0 hk0)
    · exact ⟨sp, h'⟩⟩⟩
  obtain ⟨_, s0, _, hE⟩ := (upgradeState_spec s p.name c k).resolve_left (fun h => h.1 hok)
  obtain ⟨s', hs', _⟩ := installs_upgrade s0 p.name c k
  apply govExec_of_handle hc hks hn hv hkv
  unfold handle upgradeClient
  rw [hkind]; dsimp only; rw [hc, hks]; dsimp only; rw [ho]; dsimp only; rw [if_neg (not_not_intro he), hE]
  exact hs'

/-- a create under the chain's own name is rejected, and changes nothing -/
theorem create_own_name_rejected (s : St) (p : Proposal) (hkind : p.kind = .create) (hself : p.name = s.self) :
    govExec s p = (s, Res.err) := by
  rcases govExec_err_or_ok s p with h | ⟨s', _, _, h⟩
  · exact h
  · exact absurd hself (create_only_fresh_valid s s' p hkind h).2.1

/-- create, all four types: accepted under a valid unused name other than the chain's own for a well-formed proposal -/
theorem create_accepts (s : St) (p : Proposal) (c : CState) (k : KState) (hkind : p.kind = .create)
    (hc : p.cs = some c) (hks : p.ks = some k) (hn : validName p.name = true) (hv : c.valid = true) (hkv : k.vb = true)
    (ho : getClient s p.name = none) (hself : p.name ≠ s.self)
    (hk : c.ty ≠ .tss → k.ty = c.ty ∧ c.initOk = true) : ∃ s', govExec s p = (s', Res.ok) := by
  obtain ⟨_, s', he, _⟩ := (createClient_spec s p.name c k).resolve_left (fun h => h.1 hk)
  apply govExec_of_handle hc hks hn hv hkv
  unfold handle
  rw [hkind]; dsimp only; rw [if_neg hself, ho, hc, hks]
  exact he

/-! ### non-vacuity: the hypotheses are satisfiable on concrete, non-trivial histories -/

section Examples
def exTm (h : Nat) : CState :=
  { ty := .tm, latest := ⟨11, h⟩, dig := "aa", valid := true, trust := 1000, delay := 20, initOk := true, x1 := "", x2 := "", x3 := "" }
def exBsc : CState :=
  { ty := .bsc, latest := ⟨0, 200⟩, dig := "bb", valid := true, trust := 5, delay := 11, initOk := true, x1 := "5191", x2 := "pp", x3 := "" }
def exTss : CState :=
  { ty := .tss, latest := ⟨0, 0⟩, dig := "cc", valid := true, trust := 0, delay := 0, initOk := true, x1 := "addrA", x2 := "", x3 := "" }
def exK (t : Ty) (ts : Nat) : KState := { ty := t, ts := ts, dig := "kk" }
def exRel : Op := .relayer { address := "r0", addrOk := true, nAddresses := 1, chains := ["chain-b"] }
def exHist : List Op :=
  [ exRel, .time 100,
    .prop { kind := .create, name := "chain-b", cs := some (exTm 5), ks := some (exK .tm 90) },          -- ok
    .prop { kind := .create, name := "chain-b", cs := some (exTm 6), ks := some (exK .tm 95) },          -- duplicate: err
    .prop { kind := .create, name := "a/b", cs := some exTss, ks := some (exK .tss 0) },                 -- invalid name: err
    .prop { kind := .toggle, name := "chain-b", cs := some (exTm 7), ks := some (exK .tm 95) },          -- same type: err
    .prop { kind := .upgrade, name := "chain-b", cs := some exBsc, ks := some (exK .bsc 1) },            -- other type: err
    .prop { kind := .upgrade, name := "chain-b", cs := some (exTm 9), ks := some (exK .tm 99) },         -- ok
    .prop { kind := .toggle, name := "chain-b", cs := some exBsc, ks := some (exK .bsc 1) },             -- tm -> bsc: ok
    .prop { kind := .toggle, name := "chain-b", cs := some exTss, ks := some (exK .tss 0) },             -- bsc -> tss: ok
    .update { name := "chain-b", signer := "r0", signerOk := true, hdr := { ty := .tss, height := some ⟨0, 0⟩, vb := true },
              check := true, newC := { exTss with x1 := "addrB", dig := "dd" }, newK := none, delta := [] } ] -- wrong signer: err

/-- the state after 10 operations of `exHist` (the 11th fails) -/
def exS10 : St := ⟨[(("chain-b", .cs), .cstate exTss)], [("r0", (["chain-b"], 1))], 100, ""⟩

local instance : DecidableEq St := fun a b =>
  decidable_of_iff (a.kv = b.kv ∧ a.rel = b.rel ∧ a.now = b.now ∧ a.self = b.self) (by cases a; cases b; simp)

/-- what the examples below say about `exHist`, in one statement so that its prefixes are evaluated once -/
theorem exHist_trace :
    (get (run init (exHist.take 8)).1 "chain-b" (.pt ⟨11, 9⟩) = some (.num 100) ∧
      get (run init (exHist.take 8)).1 "chain-b" (.it ⟨11, 9⟩) = some (.txt "k")) ∧
    (get (run init (exHist.take 9)).1 "chain-b" (.pt ⟨11, 9⟩) = none ∧
      get (run init (exHist.take 9)).1 "chain-b" (.cons ⟨11, 5⟩) = none ∧
      get (run init (exHist.take 9)).1 "chain-b" (.sg ⟨0, 200⟩) = some (.txt "5191")) ∧
    run init (exHist.take 10) = (exS10, [.ok, .ok, .ok, .err, .err, .err, .err, .ok, .ok, .ok]) ∧
    run init exHist = (exS10, [.ok, .ok, .ok, .err, .err, .err, .err, .ok, .ok, .ok, .err]) ∧
    (run init ([.relayer { address := "addrA", addrOk := true, nAddresses := 1, chains := ["chain-b"] }] ++ exHist.take 10 ++
      [.update { name := "chain-b", signer := "addrA", signerOk := true, hdr := { ty := .tss, height := some ⟨0, 0⟩, vb := true },
                 check := true, newC := exTss, newK := none, delta := [] },
       .update { name := "chain-b", signer := "addrA", signerOk := true, hdr := { ty := .tss, height := none, vb := true },
                 check := true, newC := exTss, newK := none, delta := [] }])).2.drop 11 = [.ok, .panic] := by
  decide +kernel

example : (run init exHist).2 = [.ok, .ok, .ok, .err, .err, .err, .err, .ok, .ok, .ok, .err] := by
  rw [exHist_trace.2.2.2.1]
example : getClient (run init exHist).1 "chain-b" = some exTss := by rw [exHist_trace.2.2.2.1]; decide +kernel
-- after the upgrade: the new height has its processed time and iteration key (F10/2, fix 0fd3c3d)
example : InitialisedFor (run init (exHist.take 8)).1 "chain-b" (exTm 9) 100 := exHist_trace.1
-- after tm -> bsc: nothing of the Tendermint client is left, the BSC metadata is there (F10/1, fixes e081e86, 0be1a17)
example : get (run init (exHist.take 9)).1 "chain-b" (.pt ⟨11, 9⟩) = none ∧
          get (run init (exHist.take 9)).1 "chain-b" (.cons ⟨11, 5⟩) = none ∧
          get (run init (exHist.take 9)).1 "chain-b" (.sg ⟨0, 200⟩) = some (.txt "5191") := exHist_trace.2.1
-- an update signed by the TSS address is refused while that address is no registered relayer
example : (step (run init (exHist.take 10)).1
    (.update { name := "chain-b", signer := "addrA", signerOk := true, hdr := { ty := .tss, height := some ⟨0, 0⟩, vb := true },
               check := true, newC := exTss, newK := none, delta := [] })).2 = .err := by   -- addrA is not a registered relayer
  rw [exHist_trace.2.2.1]; decide +kernel
-- once it is registered, the TSS update from the TSS address is accepted with a non-nil height (fix 6670a77) and panics with a nil one
example : (run init ([.relayer { address := "addrA", addrOk := true, nAddresses := 1, chains := ["chain-b"] }] ++ exHist.take 10 ++
    [.update { name := "chain-b", signer := "addrA", signerOk := true, hdr := { ty := .tss, height := some ⟨0, 0⟩, vb := true },
               check := true, newC := exTss, newK := none, delta := [] },
     .update { name := "chain-b", signer := "addrA", signerOk := true, hdr := { ty := .tss, height := none, vb := true },
               check := true, newC := exTss, newK := none, delta := [] }])).2.drop 11 = [.ok, .panic] :=
  exHist_trace.2.2.2.2
-- after bsc -> tss (TSS consensus state): no consensus state at 0-0, nothing but the client state
example : getCons (run init (exHist.take 10)).1 "chain-b" ⟨0, 0⟩ = none ∧
          get (run init (exHist.take 10)).1 "chain-b" (.sg ⟨0, 200⟩) = none := by
  rw [exHist_trace.2.2.1]; decide +kernel
-- a client under the chain's own name is refused; neither create nor upgrade of a TSS client stores a consensus state,
-- not even when the proposal carries a Tendermint one
example : (govExec { init with self := "home" } { kind := .create, name := "home", cs := some exTss, ks := some (exK .tss 0) }).2 = .err := by decide +kernel
example : getCons (run init [.prop { kind := .create, name := "abc", cs := some exTss, ks := some (exK .tss 0) },
                             .prop { kind := .upgrade, name := "abc", cs := some exTss, ks := some (exK .tss 0) }]).1 "abc" ⟨0, 0⟩
          = none := by decide +kernel
example : get (run init [.prop { kind := .create, name := "abc", cs := some exTss, ks := some (exK .tm 5) }]).1 "abc" (.cons ⟨0, 0⟩)
          = none := by decide +kernel
-- a Tendermint consensus state failing its own ValidateBasic: refused at submission, for every kind
example : validateContent { kind := .toggle, name := "chain-b", cs := some (exTm 5), ks := some { exK .tm 90 with vb := false } } = false
        ∧ (govExec (run init exHist).1 { kind := .toggle, name := "chain-b", cs := some (exTm 5), ks := some { exK .tm 90 with vb := false } }).2 = .err := by
  rw [exHist_trace.2.2.2.1]; decide +kernel
-- a Tendermint client upgraded from revision 1 (block 993) to revision 2 starting again at block 3: a valid late header
-- of revision 1 with a larger block number (1-994) is accepted, its consensus state is stored, the latest height stays
-- 2-3 and a proof at the installed height is still within range
def exRev1 : CState := { exTm 993 with latest := ⟨1, 993⟩, delay := 0 }
def exRev2 : CState := { exTm 3 with latest := ⟨2, 3⟩, dig := "r2", delay := 0 }
def exLate : Op := .update { name := "chain-b", signer := "r0", signerOk := true, hdr := { ty := .tm, height := some ⟨1, 994⟩, vb := true }, check := true, newC := { exRev2 with latest := ⟨1, 994⟩ }, newK := some (exK .tm 98), delta := [(.pt ⟨1, 994⟩, some (.num 100))] }
def exRevHist : List Op :=
  [ exRel, .time 100, .prop { kind := .create, name := "chain-b", cs := some exRev1, ks := some (exK .tm 90) },
    .prop { kind := .upgrade, name := "chain-b", cs := some exRev2, ks := some (exK .tm 95) }, exLate ]
example : (run init exRevHist).2 = [.ok, .ok, .ok, .ok, .ok]
        ∧ (getClient (run init exRevHist).1 "chain-b").map (·.latest) = some ⟨2, 3⟩
        ∧ getCons (run init exRevHist).1 "chain-b" ⟨1, 994⟩ = some (exK .tm 98)
        ∧ verify (run init exRevHist).1 "chain-b" ⟨2, 3⟩ true "" = some true := by decide +kernel
end Examples

theorem handle_other {s s' : St} {p : Proposal} (h : handle s p = .ok s') (n' : Name) (k' : Key)
    (hn : n' ≠ p.name) : get s' n' k' = get s n' k' := by
  obtain ⟨_, _, _, ha⟩ := handle_ok h
  exact ((base_frame ha.base).trans ha.inst.frame).2 n' k' hn

theorem handleUpdate_other {s s' : St} {u : Update} (h : handleUpdate s u = .ok s') (n' : Name) (k' : Key)
    (hne : n' ≠ u.name) : get s' n' k' = get s n' k' := by
  obtain ⟨c, hgt, _, _, _, _, _, _, rfl⟩ := handleUpdate_ok h
  exact (frame_updated s u c hgt).2 n' k' hne

/-- an operation about client `n` (a proposal, an update, whether it succeeds or not) leaves the client
    store of every other name exactly as it was: state, consensus states, auxiliary records. Operations without a
    target (time, relayer registration, restart, dropped executions) leave every client store as it was. -/
theorem step_frame (s : St) (o : Op) (n' : Name) (k' : Key) (hn : ∀ n, target o = some n → n' ≠ n) :
    get (step s o).1 n' k' = get s n' k' := by
  cases o with
  | time ns => rfl
  | relayer p =>
    rcases relayerExec_cases s p with h | ⟨_, h⟩ <;> show get (relayerExec s p).1 n' k' = _ <;> rw [h] <;> rfl
  | restart => rfl
  | dry o => rfl
  | prop p =>
    rcases govExec_err_or_ok s p with h | ⟨s', _, hh, h⟩ <;> show get (govExec s p).1 n' k' = _ <;> rw [h]
    exact handle_other hh n' k' (hn p.name rfl)
  | update u =>
    rcases txExec_cases s u with h | ⟨h, _⟩
    · exact congrArg (get · n' k') h
    · exact handleUpdate_other h n' k' (hn u.name rfl)

/-- over histories: a client none of whose operations is in the history keeps its whole store, whatever happens to the
    other clients (several clients of every type side by side) -/
theorem run_frame (n' : Name) (k' : Key) (ops : List Op) (hn : ∀ o ∈ ops, ∀ n, target o = some n → n' ≠ n) :
    ∀ s : St, get (run s ops).1 n' k' = get s n' k' := by
  induction ops with
  | nil => intro s; rfl
  | cons o r ih =>
    intro s
    rw [run_fst_cons, ih (fun o' ho' => hn o' (List.mem_cons_of_mem _ ho'))]
    exact step_frame s o n' k' (hn o List.mem_cons_self)

/-- `h0 ≤ a` in the order of `Height.GT` -/
def Height.leLex (h0 a : Height) : Prop := a.lt h0 = false

theorem leLex_maxLex_left (h0 a b : Height) (h : Height.leLex h0 a) : Height.leLex h0 (Height.maxLex a b) := by
  unfold Height.leLex Height.maxLex at *
  by_cases hab : a.lt b = true
  · -- `h0 ≤ a < b` in the lexicographic order
    rw [if_pos hab]
    rw [lt_false_iff] at h ⊢
    rw [lt_iff] at hab
    intro hb
    apply h
    rcases hab with h1 | ⟨h1, h2⟩ <;> rcases hb with h3 | ⟨h3, h4⟩
    · exact Or.inl (Nat.lt_trans h1 h3)
    · exact Or.inl (h3 ▸ h1)
    · exact Or.inl (h1 ▸ h3)
    · exact Or.inr ⟨h1.trans h3, Nat.lt_trans h2 h4⟩
  · rw [if_neg hab]; exact h

theorem maxLex_ge_right (a b : Height) : Height.leLex b (Height.maxLex a b) := by
  unfold Height.leLex Height.maxLex
  by_cases hab : a.lt b = true
  · rw [if_pos hab]; exact lt_irrefl b
  · rw [if_neg hab]; exact Bool.eq_false_iff.2 hab

/-- what an update leaves as the client of its name: the previous one (refused) or `storedAfterUpdate` -/
theorem txExec_client (s : St) (u : Update) (c : CState) (hc : getClient s u.name = some c) :
    getClient (txExec s u).1 u.name = some c ∨
    ∃ h, u.hdr.height = some h ∧ getClient (txExec s u).1 u.name = some (storedAfterUpdate c u h) := by
  rcases txExec_cases s u with h | ⟨h, _⟩
  · rw [h]; exact Or.inl hc
  · obtain ⟨c', hgt, _, hc', _, _, _, hh, he⟩ := handleUpdate_ok h
    cases hc.symm.trans hc'
    rw [he]
    exact Or.inr ⟨hgt, hh, getClient_updated s u c hgt⟩

/-- a Tendermint client of name `n` whose latest height is at least `h0` -/
def TmLatestGe (s : St) (n : Name) (h0 : Height) : Prop :=
  ∃ c, getClient s n = some c ∧ c.ty = .tm ∧ Height.leLex h0 c.latest

/-- one step that is not a lifecycle proposal about `n` keeps "`n` is a Tendermint client with latest ≥ h0": an accepted
    update stores `maxLex` of the old latest height and the header's — a valid late header of an earlier revision or a
    skipped past height never moves it back — and nothing else touches the client -/
theorem step_tmLatestGe (s : St) (o : Op) (n : Name) (h0 : Height) (hno : ∀ p, o = .prop p → p.name ≠ n)
    (hge : TmLatestGe s n h0) : TmLatestGe (step s o).1 n h0 := by
  obtain ⟨c, hc, hty, hle⟩ := hge
  by_cases ht : target o = some n
  · cases o with
    | update u =>
      cases Option.some.inj ht
      rcases txExec_client s u c hc with h | ⟨h, _, hst⟩
      · exact ⟨c, h, hty, hle⟩
      · refine ⟨_, hst, ?_, ?_⟩ <;> unfold storedAfterUpdate <;> rw [hty]
        exact leLex_maxLex_left _ _ _ hle
    | prop p => exact absurd (Option.some.inj ht) (hno p rfl)
    | _ => cases ht
  · refine ⟨c, ?_, hty, hle⟩
    unfold getClient at hc ⊢
    rw [step_frame s o n .cs (fun m hm h => ht (h ▸ hm))]; exact hc

/-- (revision first, then block number) over every history of updates by anyone, of
    time steps, restarts, dropped executions, relayer registrations and lifecycle proposals about OTHER clients, a
    Tendermint client's latest height never falls below a height it once had -/
theorem latest_never_decreases_lex (n : Name) (h0 : Height) (ops : List Op)
    (hno : ∀ o ∈ ops, ∀ p, o = .prop p → p.name ≠ n) : ∀ s : St, TmLatestGe s n h0 → TmLatestGe (run s ops).1 n h0 := by
  induction ops with
  | nil => intro s h; exact h
  | cons o r ih =>
    intro s h
    rw [run_fst_cons]
    exact ih (fun o' ho' => hno o' (List.mem_cons_of_mem _ ho')) _ (step_tmLatestGe s o n h0 (hno o List.mem_cons_self) h)

/-- … in particular after an upgrade (or create / toggle) that installed the Tendermint client state `c` — possibly
    of a NEW revision whose block numbers start again below those of the old one — no later history of updates,
    including valid late headers of the old revision with larger block numbers, takes the latest height below
    `c.latest`: proofs at the installed height stay within the client's range -/
theorem installed_height_stays_in_range (s s' : St) (p : Proposal) (c : CState) (k : KState) (hc : p.cs = some c)
    (hks : p.ks = some k) (hty : c.ty = .tm) (h : govExec s p = (s', Res.ok)) (ops : List Op)
    (hno : ∀ o ∈ ops, ∀ q, o = .prop q → q.name ≠ p.name) :
    ∃ c', getClient (run s' ops).1 p.name = some c' ∧ c'.ty = .tm ∧ c'.latest.lt c.latest = false := by
  obtain ⟨hC, _⟩ := installs_exactly s s' p c k hc hks h
  exact latest_never_decreases_lex p.name c.latest ops hno s' ⟨c, hC, hty, lt_irrefl _⟩

/-- the first conjunct restates the modelling decision: `tmHeaderStateless` does not read `appHash` (tendermint's
    `ValidateBasic`: "AppHash is arbitrary length"), so it holds by `rfl`; that the code's stateless stage accepts app hashes
    of 1, 8, 20, 31, 32, 33, 64 … bytes is checked by the differential run. The second: a header whose other free-form
    fields are well formed passes -/
theorem update_stateless_accepts_any_apphash_len (n d e l p : Nat) :
    tmHeaderStateless { appHash := n, data := d, evidence := e, lastResults := l, proposer := p } =
      tmHeaderStateless { appHash := 32, data := d, evidence := e, lastResults := l, proposer := p } ∧
    (hashLenOk d = true → hashLenOk e = true → hashLenOk l = true → p = 20 →
      tmHeaderStateless { appHash := n, data := d, evidence := e, lastResults := l, proposer := p } = true) := by
  refine ⟨rfl, ?_⟩
  intro hd he hl hp
  simp [tmHeaderStateless, hd, he, hl, hp]

/-! ### an invalid proposal changes nothing (stated over the composition: submission stage, then handler) -/

/-- the content fails the stateless stage: bad chain name, a client state that does not unpack or fails `Validate()`,
    a consensus state that does not unpack or fails `ValidateBasic()` -/
def ContentInvalid (p : Proposal) : Prop :=
  validName p.name = false ∨ p.cs = none ∨ (∃ c, p.cs = some c ∧ c.valid = false) ∨
  p.ks = none ∨ ∃ k, p.ks = some k ∧ k.vb = false

theorem validateBasic_invalid {p : Proposal} (hi : ContentInvalid p) : validateBasic p = false := by
  unfold validateBasic
  rcases hi with h | h | ⟨c, hc, hv⟩ | h | ⟨k, hk, hv⟩
  · simp [h]
  · simp [h]
  · simp [hc, hv]
  · simp [h]
  · simp [hk, hv]

/-- content that fails the stateless stage is rejected at submission and nothing is touched — `ToggleClient`, which clears
    the old client store, is never reached. The kind plays no part: in the model the three `ValidateBasic` functions are
    one (`validateContent_eq`), so the three theorems below are this one under the names of the three proposals; that
    each kind of the code validates its client state is checked by the differential run (`rej` observations) -/
theorem invalid_content_changes_nothing (s : St) (p : Proposal) (hi : ContentInvalid p) :
    validateContent p = false ∧ govExec s p = (s, Res.err) :=
  ⟨by rw [validateContent_eq]; exact validateBasic_invalid hi, govExec_of_invalid (validateBasic_invalid hi) s⟩

theorem invalid_create_changes_nothing (s : St) (p : Proposal) (hk : p.kind = .create) (hi : ContentInvalid p) :
    validateContent p = false ∧ govExec s p = (s, Res.err) :=
  invalid_content_changes_nothing s p hi

theorem invalid_upgrade_changes_nothing (s : St) (p : Proposal) (hk : p.kind = .upgrade) (hi : ContentInvalid p) :
    validateContent p = false ∧ govExec s p = (s, Res.err) :=
  invalid_content_changes_nothing s p hi

theorem invalid_toggle_changes_nothing (s : St) (p : Proposal) (hk : p.kind = .toggle) (hi : ContentInvalid p) :
    validateContent p = false ∧ govExec s p = (s, Res.err) :=
  invalid_content_changes_nothing s p hi

/-- the content passes submission but cannot be installed: the consensus state does not unpack, is of another type
    than a non-TSS client state, or the type's own initial checks fail (BSC in every kind, the others on Initialize) -/
def ExecInvalid (p : Proposal) : Prop :=
  p.ks = none ∨ ∃ c k, p.cs = some c ∧ p.ks = some k ∧ c.ty ≠ .tss ∧
    (k.ty ≠ c.ty ∨ (c.initOk = false ∧ (c.ty = .bsc ∨ p.kind ≠ .upgrade)))

/-- for every kind and every state: content that is invalid at the
    stateless stage or at the execution stage ends as a failed proposal (never a panic) and the state — the previous
    client, its consensus states, its auxiliary records, the relayers — is exactly what it was -/
theorem invalid_proposal_changes_nothing (s : St) (p : Proposal) (hi : ContentInvalid p ∨ ExecInvalid p) :
    govExec s p = (s, Res.err) := by
  -- a proposal that does not fail was accepted, and `handle_ok` says under which guards
  rcases govExec_err_or_ok s p with h | ⟨s', hv, hh, _⟩
  · exact h
  · obtain ⟨c', k', _, ha⟩ := handle_ok hh
    rcases hi with hi | hks | ⟨c, k, hc, hks, hne, hbad⟩
    · rw [validateBasic_invalid hi] at hv; cases hv
    · cases hks.symm.trans ha.ks
    · cases hc.symm.trans ha.cs; cases hks.symm.trans ha.ks
      rcases hbad with h | ⟨h, h2⟩
      · exact absurd (ha.ty hne) h
      · rw [ha.init hne h2] at h; cases h

end TM.Lifecycle

/-! ### BSC: the pending validator set installed with the client is the one the installed epoch header announces,
and it is the set in force once the updates have crossed the switch point (epoch + ⌊len/2⌋)

Stated on `TM.Bsc` (Model/Bsc.lean, the model of the BSC client's `Initialize` / `CheckHeaderAndUpdateState` that C09
ties to the code). In `TM.Lifecycle` the same record is `Key.pv ↦ CState.x2`; the harness computes `x2` BY CONSTRUCTION
from the extra data of the installed header (own parsing), so the differential run compares the real store's pending
set with the announced list right after every install. -/
namespace TM.Bsc

/-- `k` accepted updates, each with the next header (the number check of `verifyCascadingFields` modulo 2^64) -/
inductive NextRun (env : Env) (cs0 : ClientState) (st0 : Store) : Nat → ClientState → Store → Prop
  | nil : NextRun env cs0 st0 0 cs0 st0
  | step {k : Nat} {cs cs' : ClientState} {st st' : Store} {bt : Nat} {h : Header} :
      NextRun env cs0 st0 k cs st → updateClient Fix.fixed env cs st bt h = .ok (cs', st') →
      h.number = cs.head.number + 1 → NextRun env cs0 st0 (k + 1) cs' st'

theorem install_pending_announced {env : Env} {cs0 cs : ClientState} {st : Store}
    (hc : createClient env cs0 = .ok (cs, st)) :
    cs = cs0 ∧ parseValidators cs0.head.extra = some st.pending ∧
    ∃ signer, env.recover cs0.chainId cs0.head = some signer ∧ st.recents = [⟨cs0.head.rev, cs0.head.number, signer⟩] := by
  obtain ⟨hcs, _, _, signer, pending, hr, _, hp, rfl⟩ := createClient_ok hc
  exact ⟨hcs, hp, signer, hr, rfl⟩

theorem nextRun_inv {env : Env} {cs0 : ClientState} {st0 : Store} {k : Nat} {cs : ClientState} {st : Store}
    (hrun : NextRun env cs0 st0 k cs st) (he : cs0.head.number % cs0.epoch = 0) (hk : k < cs0.epoch) :
    cs.head.number = cs0.head.number + k ∧ cs.epoch = cs0.epoch ∧ st.pending = st0.pending ∧
    cs.validators = if k < cs0.validators.length / 2 then cs0.validators else
                    if cs0.validators.length / 2 = 0 then cs0.validators else st0.pending := by
  induction hrun with
  | nil =>
    refine ⟨rfl, rfl, rfl, ?_⟩
    by_cases h : 0 < cs0.validators.length / 2
    · rw [if_pos h]
    · rw [if_neg h, if_pos (Nat.eq_zero_of_not_pos h)]
  | @step j cs cs' st st' bt h _ hacc hnum ih =>
    obtain ⟨ihn, ihe, ihp, ihv⟩ := ih (Nat.lt_of_succ_lt hk)
    obtain ⟨signer, pending, _, hp, hcs', _, hpe, _⟩ := step_effect hacc
    have hmod : h.number % cs.epoch = j + 1 := by
      obtain ⟨q, hq⟩ := Nat.dvd_of_mod_eq_zero he
      rw [hnum, ihn, ihe, Nat.add_assoc, hq, Nat.mul_add_mod, Nat.mod_eq_of_lt hk]
    -- inside the epoch the pending set is carried along unchanged
    have hpend : pending = st0.pending := by
      unfold pendingAfter at hp
      rw [hmod, if_neg (Nat.succ_ne_zero j)] at hp
      exact (Option.some.inj hp).symm.trans ihp
    subst hcs'
    refine ⟨by rw [hnum, ihn]; rfl, ihe, hpe.trans hpend, ?_⟩
    show (if h.number % cs.epoch = cs.validators.length / 2 then pending else cs.validators) = _
    rw [hmod, hpend]
    generalize hL : cs0.validators.length / 2 = L at ihv ⊢
    rcases Nat.lt_or_ge j L with hj | hj
    · -- the installed set is in force up to the switch point `L`, where the pending set takes over
      rw [if_pos hj] at ihv
      rw [ihv, hL]
      by_cases h1 : j + 1 = L
      · rw [if_pos h1, if_neg (h1 ▸ Nat.lt_irrefl _), if_neg (Nat.ne_of_gt (Nat.zero_lt_of_lt hj))]
      · rw [if_neg h1, if_pos (Nat.lt_of_le_of_ne hj h1)]
    · rw [if_neg (Nat.not_lt.2 hj)] at ihv
      rw [if_neg (Nat.not_lt.2 (Nat.le_succ_of_le hj))]
      by_cases h0 : L = 0
      · -- a one-validator set: the switch point is the epoch header itself, never reached inside the epoch
        rw [if_pos h0] at ihv ⊢
        rw [ihv, hL, if_neg (h0 ▸ Nat.succ_ne_zero j)]
      · rw [if_neg h0] at ihv ⊢
        rw [ihv, ite_self]

/-- a BSC client installed (create / toggle / upgrade all run the same
    `Initialize` / `UpgradeState` guards and writes) at an epoch header with `len` validators, ⌊len/2⌋ ≥ 1, then
    updated with `k` valid next headers, ⌊len/2⌋ ≤ k < epoch: the authorised validator list is EXACTLY the list the
    installed header's extra data announces (and before the switch point it is still the installed list). -/
theorem announced_set_in_force {env : Env} {cs0 cs csk : ClientState} {st stk : Store} {k : Nat}
    (hc : createClient env cs0 = .ok (cs, st)) (hrun : NextRun env cs st k csk stk) (hk : k < cs0.epoch) :
    (k < cs0.validators.length / 2 → csk.validators = cs0.validators) ∧
    (1 ≤ cs0.validators.length / 2 → cs0.validators.length / 2 ≤ k →
        parseValidators cs0.head.extra = some csk.validators ∧ stk.pending = csk.validators) := by
  obtain ⟨rfl, hp, _⟩ := install_pending_announced hc
  obtain ⟨_, _, hpend, hv⟩ := nextRun_inv hrun (createClient_ok hc).2.2.1 hk
  constructor
  · intro hlt; rw [hv, if_pos hlt]
  · intro h1 h2
    rw [if_neg (Nat.not_lt.2 h2), if_neg (Nat.ne_of_gt h1)] at hv
    exact ⟨hv ▸ hp, hv ▸ hpend⟩

/-! non-vacuity: epoch 10, a client installed at epoch header 20 with the set {1,2,3} in force while the header announces
{3,4,5,6,7}: header 21 (validator 1) is verified by the old set and triggers the switch, header 22 sealed by the newly
joined validator 5 is accepted and the announced list is in force; the retired validator 1 can no longer seal 22. -/
namespace Witness
def rotClient : ClientState := client 10 1000000 [1, 2, 3] (hdr 20 3 2 100 [3, 4, 5, 6, 7])

example : (match run Fix.fixed env rotClient [(0, hdr 21 1 2 103), (0, hdr 22 5 2 106)] with
      | .ok s => some (s.1.validators, s.2.pending)
      | _ => none) = some ([3, 4, 5, 6, 7].map addrBytes, [3, 4, 5, 6, 7].map addrBytes)
    ∧ (match run Fix.fixed env rotClient [] with | .ok s => some s.2.pending | _ => none) = some ([3, 4, 5, 6, 7].map addrBytes)
    ∧ (run Fix.fixed env rotClient [(0, hdr 21 1 2 103), (0, hdr 22 1 1 106)]).isOk = false
    ∧ (run Fix.fixed env rotClient [(0, hdr 21 1 2 103), (0, hdr 22 2 1 106)]).isOk = false := by
  decide +kernel
end Witness

end TM.Bsc

