import TeleportModel.Model.Ics20
/-
C16 — the aggregate ICS-20 middleware is transparent: acknowledgements survive, conversion is atomic.

The theorems are about `TM.Ics20.onRecv` (x/aggregate/ibc_middleware.go + keeper/ibc_hook.go + ConvertCoin; two are about
`onRecvUnguarded`, the middleware before the receiver-length repair, /repo fix 8e97daf) for ALL packets, decoder answers (`view`), wrapped applications (`inner`), EVMs (`E`) and chain states.
`fixed = true` is the repaired hook (fixes/C16-hook-returns-ack.diff, /repo fix 0f2dacb); `fixed = false` the code before that
fix (F7).
-/
namespace TM.Ics20
open TM

variable {σ P : Type}

/-- Guard established by the wrapped ICS-20 application: it acknowledges success only for packets whose amount
    is not negative (`FungibleTokenPacketData.ValidateBasic`: strictly positive). Checked on the real transfer
    module by the harness for every generated packet (oracle signature `C16:inner-guard-assumption`). -/
def InnerGuards (view : P → View) (inner : Inner σ P) : Prop :=
  ∀ st pkt a, (inner.ack st pkt).success = true → (view pkt).amount = some a → 0 ≤ a

/-- The pair's contract answers `balanceOf` (for the receiver `a`; in the `transfer` flow also for the module account
    `m`, read right after the receiver's, before and after the call) whenever its `mint` / `transfer` succeeds
    (otherwise Go's big.Int arithmetic on a nil balance panics inside `convertCoinNative*`). -/
def EvmSane (E : Evm σ) : Prop :=
  (∀ s c a amt s2, E.mint (E.balanceOf s c a).1 c a amt = some s2 →
      (E.balanceOf s c a).2 ≠ none ∧ (E.balanceOf s2 c a).2 ≠ none) ∧
  (∀ s c a m amt s2 ap,
      E.transfer (E.balanceOf (E.balanceOf s c a).1 c m).1 c a amt = some (s2, some true, ap) →
      (E.balanceOf s c a).2 ≠ none ∧ (E.balanceOf (E.balanceOf s c a).1 c m).2 ≠ none ∧
      (E.balanceOf s2 c a).2 ≠ none ∧ (E.balanceOf (E.balanceOf s2 c a).1 c m).2 ≠ none)

theorem mintingEnabled_some {st : State σ} {s rc : Addr} {d : Denom} {id : Nat} {p : Pair}
    (h : mintingEnabled st s rc d = some (id, p)) :
    st.enabled = true ∧ st.denomMap d = some id ∧ st.pairs id = some p ∧ p.enabled = true ∧ st.blocked rc = false := by
  unfold mintingEnabled at h
  obtain ⟨he, h⟩ := Option.ite_none_left_eq_some.mp h
  split at h
  · cases h
  · split at h
    · cases h
    · obtain ⟨hpe, h⟩ := Option.ite_none_left_eq_some.mp h
      obtain ⟨hb, h⟩ := Option.ite_none_left_eq_some.mp h
      obtain ⟨_, h⟩ := Option.ite_none_left_eq_some.mp h
      cases h
      exact ⟨by simpa using he, ‹_›, ‹_›, by simpa using hpe, by simpa using hb⟩

theorem escrow_some {st : State σ} {s : Addr} {d : Denom} {amt : Int} {b : Addr → Denom → Int}
    (h : escrow st s d amt = some b) : 0 < amt ∧ amt ≤ st.bal s d ∧ b = sendCoins st.bal s st.modAddr d amt := by
  unfold escrow at h
  obtain ⟨h0, h⟩ := Option.ite_none_left_eq_some.mp h
  obtain ⟨h1, h⟩ := Option.ite_none_left_eq_some.mp h
  cases h
  exact ⟨Int.not_le.mp h0, Int.not_lt.mp h1, rfl⟩

theorem balanceGrewBy_ne_none {b0 b1 : Option Nat} {amt : Int} (h0 : b0 ≠ none) (h1 : b1 ≠ none) :
    balanceGrewBy b0 b1 amt ≠ none := by
  cases b0 with
  | none => exact absurd rfl h0
  | some x =>
    cases b1 with
    | none => exact absurd rfl h1
    | some y => intro h; cases h

theorem balanceGrewBy_true {b0 b1 : Option Nat} {amt : Int} (h : balanceGrewBy b0 b1 amt = some true) :
    ∃ x y, b0 = some x ∧ b1 = some y ∧ (y : Int) = (x : Int) + amt := by
  cases b0 with
  | none => cases h
  | some x =>
    cases b1 with
    | none => cases h
    | some y => exact ⟨x, y, rfl, rfl, of_decide_eq_true (Option.some.inj h)⟩

theorem balanceFellBy_eq (m0 m1 : Option Nat) (amt : Int) : balanceFellBy m0 m1 amt = balanceGrewBy m0 m1 (-amt) := by
  cases m0 <;> cases m1 <;> rfl

/-- `convertCoinNativeCoin` by outcome: success means that every step succeeded; a panic means that `mint` went through
    and a balance read came back nil, which `EvmSane` excludes. `r0` is the receiver's token balance read before the call. -/
theorem convertNativeCoin_spec (E : Evm σ) (st : State σ) (p : Pair) (s rc : Addr) (d : Denom) (amt : Int)
    (r0 : σ × Option Nat) (h0 : E.balanceOf st.evm p.contract rc = r0) :
    match convertNativeCoin E st p s rc d amt with
    | .ok st' => ∃ bank1 e2, escrow st s d amt = some bank1 ∧ E.mint r0.1 p.contract rc amt = some e2 ∧
        balanceGrewBy r0.2 (E.balanceOf e2 p.contract rc).2 amt = some true ∧
        st' = { st with bal := bank1, evm := (E.balanceOf e2 p.contract rc).1 }
    | .err _ => True
    | .panic _ => ¬ EvmSane E := by
  unfold convertNativeCoin
  rw [h0]
  dsimp only
  cases escrow st s d amt with
  | none => trivial
  | some bank1 =>
    cases hm : E.mint r0.1 p.contract rc amt with
    | none => trivial
    | some e2 =>
      dsimp only
      match hg : balanceGrewBy r0.2 (E.balanceOf e2 p.contract rc).2 amt with
      | none =>
        subst h0
        exact fun hE => balanceGrewBy_ne_none (hE.1 _ _ _ _ _ hm).1 (hE.1 _ _ _ _ _ hm).2 hg
      | some false => trivial
      | some true => exact ⟨bank1, e2, rfl, rfl, hg, rfl⟩

/-- `convertCoinNativeERC20` by outcome, in the same way (a panic needs `transfer` to have returned `true`).
    `q0` is the module's token balance, read after the receiver's. -/
theorem convertNativeERC20_spec (E : Evm σ) (st : State σ) (p : Pair) (s rc : Addr) (d : Denom) (amt : Int)
    (r0 q0 : σ × Option Nat) (h0 : E.balanceOf st.evm p.contract rc = r0)
    (hq : E.balanceOf r0.1 p.contract (evmAddr st.modAddr) = q0) :
    match convertNativeERC20 E st p s rc d amt with
    | .ok st' => ∃ bank1 e2, escrow st s d amt = some bank1 ∧
        E.transfer q0.1 p.contract rc amt = some (e2, some true, false) ∧
        balanceGrewBy r0.2 (E.balanceOf e2 p.contract rc).2 amt = some true ∧
        balanceFellBy q0.2 (E.balanceOf (E.balanceOf e2 p.contract rc).1 p.contract (evmAddr st.modAddr)).2 amt = some true ∧
        st' = { st with bal := addBal bank1 st.modAddr d (-amt),
                        evm := (E.balanceOf (E.balanceOf e2 p.contract rc).1 p.contract (evmAddr st.modAddr)).1 }
    | .err _ => True
    | .panic _ => ¬ EvmSane E := by
  unfold convertNativeERC20
  rw [h0]
  dsimp only
  rw [hq]
  cases escrow st s d amt with
  | none => trivial
  | some bank1 =>
    cases ht : E.transfer q0.1 p.contract rc amt with
    | none => trivial
    | some t =>
      obtain ⟨e2, ret, approval⟩ := t
      match ret, ht with
      | none, _ | some false, _ => trivial
      | some true, ht =>
        dsimp only
        match hg : balanceGrewBy r0.2 (E.balanceOf e2 p.contract rc).2 amt with
        | none =>
          subst hq h0
          exact fun hE => balanceGrewBy_ne_none (hE.2 _ _ _ _ _ _ _ ht).1 (hE.2 _ _ _ _ _ _ _ ht).2.2.1 hg
        | some false => trivial
        | some true =>
          match hf : balanceFellBy q0.2
              (E.balanceOf (E.balanceOf e2 p.contract rc).1 p.contract (evmAddr st.modAddr)).2 amt with
          | none =>
            subst hq h0
            exact fun hE => balanceGrewBy_ne_none (hE.2 _ _ _ _ _ _ _ ht).2.1 (hE.2 _ _ _ _ _ _ _ ht).2.2.2
              (balanceFellBy_eq .. ▸ hf)
          | some false => trivial
          | some true =>
            by_cases hburn : bank1 st.modAddr d < amt
            · rw [if_pos hburn]; trivial
            · rw [if_neg hburn]
              cases approval with
              | true => trivial
              | false => exact ⟨bank1, e2, rfl, rfl, hg, hf, rfl⟩

theorem convertCoin_no_panic (E : Evm σ) (hE : EvmSane E) (st : State σ) (s rc : Addr) (d : Denom) (amt : Int) (site : String) :
    convertCoin E st s rc d amt ≠ .panic site := by
  unfold convertCoin
  cases mintingEnabled st s rc d with
  | none => intro h; cases h
  | some ip =>
    obtain ⟨id, p⟩ := ip
    dsimp only
    cases E.isContract st.evm p.contract with
    | false => intro h; cases h
    | true =>
      cases p.owner with
      | unspecified => intro h; cases h
      | module =>
        intro (h : convertNativeCoin E st p s rc d amt = .panic site)
        have hspec := convertNativeCoin_spec E st p s rc d amt _ rfl
        rw [h] at hspec
        exact hspec hE
      | external =>
        intro (h : convertNativeERC20 E st p s rc d amt = .panic site)
        have hspec := convertNativeERC20_spec E st p s rc d amt _ _ rfl rfl
        rw [h] at hspec
        exact hspec hE

/-- Nothing but what the wrapped application did: balances and EVM state are its. -/
def Untouched (sI s : State σ) : Prop := s.bal = sI.bal ∧ s.evm = sI.evm

/-- One complete conversion on top of the wrapped application's state `sI`. -/
def Converted (E : Evm σ) (v : View) (sI s : State σ) : Prop :=
  ∃ (amt : Int) (id : Nat) (p : Pair) (b0 b1 : Nat) (e2 e3 : σ),
    v.amount = some amt ∧ 0 < amt ∧
    sI.enabled = true ∧ sI.denomMap v.denom = some id ∧ sI.pairs id = some p ∧ p.enabled = true ∧
    sI.blocked (evmAddr (v.receiver.getD [])) = false ∧
    amt ≤ sI.bal (v.receiver.getD []) v.denom ∧
    (E.balanceOf sI.evm p.contract (evmAddr (v.receiver.getD []))).2 = some b0 ∧
    ((p.owner = .module ∧
        E.mint (E.balanceOf sI.evm p.contract (evmAddr (v.receiver.getD []))).1 p.contract (evmAddr (v.receiver.getD [])) amt = some e2 ∧
        s.evm = e3 ∧
        s.bal = sendCoins sI.bal (v.receiver.getD []) sI.modAddr v.denom amt)
     ∨ (p.owner = .external ∧
        -- the module's own token balance (its escrow of tokens) fell by exactly amt across the `transfer`
        ∃ (m0 m1 : Nat),
        (E.balanceOf (E.balanceOf sI.evm p.contract (evmAddr (v.receiver.getD []))).1 p.contract (evmAddr sI.modAddr)).2 = some m0 ∧
        E.transfer (E.balanceOf (E.balanceOf sI.evm p.contract (evmAddr (v.receiver.getD []))).1 p.contract (evmAddr sI.modAddr)).1
            p.contract (evmAddr (v.receiver.getD [])) amt = some (e2, some true, false) ∧
        E.balanceOf e3 p.contract (evmAddr sI.modAddr) = (s.evm, some m1) ∧ (m1 : Int) = (m0 : Int) - amt ∧
        s.bal = addBal (sendCoins sI.bal (v.receiver.getD []) sI.modAddr v.denom amt) sI.modAddr v.denom (-amt))) ∧
    E.balanceOf e2 p.contract (evmAddr (v.receiver.getD [])) = (e3, some b1) ∧
    (b1 : Int) = (b0 : Int) + amt ∧
    s.denomMap = sI.denomMap ∧ s.pairs = sI.pairs ∧ s.enabled = sI.enabled

theorem convertCoin_ok (E : Evm σ) (v : View) (st st' : State σ) (amt : Int) (ha : v.amount = some amt)
    (h : convertCoin E st (v.receiver.getD []) (evmAddr (v.receiver.getD [])) v.denom amt = .ok st') :
    Untouched st st' ∨ Converted E v st st' := by
  -- `s` for the receiver, until the conclusion needs it spelled out
  generalize hs : v.receiver.getD [] = s at h
  unfold convertCoin at h
  revert h
  cases hm : mintingEnabled st s (evmAddr s) v.denom with
  | none => intro h; cases h
  | some ip =>
    obtain ⟨id, p⟩ := ip
    obtain ⟨hen, hdm, hpr, hpe, hbl⟩ := mintingEnabled_some hm
    dsimp only
    cases E.isContract st.evm p.contract with
    | false => intro h; cases h; exact Or.inl ⟨rfl, rfl⟩
    | true =>
      cases hown : p.owner with
      | unspecified => intro h; cases h
      | module =>
        intro (h : convertNativeCoin E st p s (evmAddr s) v.denom amt = .ok st')
        have hspec := convertNativeCoin_spec E st p s (evmAddr s) v.denom amt _ rfl
        rw [h] at hspec
        obtain ⟨bank1, e2, hes, hmint, hg, hst⟩ := hspec
        obtain ⟨hpos, hle, hb⟩ := escrow_some hes
        obtain ⟨b0, b1, h0, h1, h01⟩ := balanceGrewBy_true hg
        subst hst hs
        exact Or.inr ⟨amt, id, p, b0, b1, e2, _, ha, hpos, hen, hdm, hpr, hpe, hbl, hle, h0,
          Or.inl ⟨hown, hmint, rfl, hb⟩, Prod.ext rfl h1, h01, rfl, rfl, rfl⟩
      | external =>
        intro (h : convertNativeERC20 E st p s (evmAddr s) v.denom amt = .ok st')
        have hspec := convertNativeERC20_spec E st p s (evmAddr s) v.denom amt _ _ rfl rfl
        rw [h] at hspec
        obtain ⟨bank1, e2, hes, htr, hg, hf, hst⟩ := hspec
        obtain ⟨hpos, hle, hb⟩ := escrow_some hes
        obtain ⟨b0, b1, h0, h1, h01⟩ := balanceGrewBy_true hg
        obtain ⟨m0, m1, hm0, hm1, hm01⟩ := balanceGrewBy_true (balanceFellBy_eq .. ▸ hf)
        subst hst hb hs
        exact Or.inr ⟨amt, id, p, b0, b1, e2, _, ha, hpos, hen, hdm, hpr, hpe, hbl, hle, h0,
          Or.inr ⟨hown, m0, m1, hm0, htr, Prod.ext rfl hm1, hm01, rfl⟩, Prod.ext rfl h1, h01, rfl, rfl, rfl⟩

/-- The hook in two stages, for both values of `fixed` at once: every way of not reaching `ConvertCoin` (data do not
    decode, with the guard a receiver that is not a 20-byte address, denomination not registered) returns with the state
    untouched; past that point the outcome is `ConvertCoin`'s, written only on success. -/
theorem hookG_cases (guard : Bool) (E : Evm σ) (v : View) (st : State σ) :
    (∀ fixed ack, hookG guard fixed E v st ack = .ok ⟨if fixed then some ack else none, st, .failed⟩) ∨
    ∃ amt, v.amount = some amt ∧ (guard = true → (v.receiver.getD []).length = 20) ∧
      ∀ fixed ack, hookG guard fixed E v st ack =
        if amt < 0 then .panic "NewCoin-negative"
        else match convertCoin E st (v.receiver.getD []) (evmAddr (v.receiver.getD [])) v.denom amt with
          | .ok st' => .ok ⟨if fixed then some ack else none, st', .success⟩
          | .err _ => .ok ⟨if fixed then some ack else none, st, .failed⟩
          | .panic s => .panic s := by
  unfold hookG
  dsimp only
  cases v.decodeOk with
  | false => exact Or.inl fun _ _ => rfl
  | true =>
    cases v.amount with
    | none => exact Or.inl fun _ _ => rfl
    | some amt =>
      cases hg : (guard && (v.receiver.getD []).length != 20) with
      | true => exact Or.inl fun _ _ => rfl
      | false =>
        cases st.denomMap v.denom with
        | none => exact Or.inl fun _ _ => rfl
        | some _ => exact Or.inr ⟨amt, rfl, fun hgt => by simpa [hgt] using hg, fun _ _ => rfl⟩

theorem hookG_atomic (guard fixed : Bool) (E : Evm σ) (v : View) (st : State σ) (ack : Ack) (r : Res σ)
    (h : hookG guard fixed E v st ack = .ok r) :
    r.ack = (if fixed then some ack else none) ∧
    (Untouched st r.st ∨ (Converted E v st r.st ∧ (guard = true → (v.receiver.getD []).length = 20))) := by
  rcases hookG_cases guard E v st with hf | ⟨amt, hamt, hlen, he⟩
  · rw [hf] at h; cases h; exact ⟨rfl, Or.inl ⟨rfl, rfl⟩⟩
  · rw [he] at h
    by_cases hneg : amt < 0
    · rw [if_pos hneg] at h; cases h
    · rw [if_neg hneg] at h
      generalize hc : convertCoin E st (v.receiver.getD []) (evmAddr (v.receiver.getD [])) v.denom amt = o at h
      cases o with
      | ok st' =>
        cases h
        exact ⟨rfl, (convertCoin_ok E v st st' amt hamt hc).imp id (⟨·, hlen⟩)⟩
      | err e => cases h; exact ⟨rfl, Or.inl ⟨rfl, rfl⟩⟩
      | panic s => cases h

theorem hook_returns_ack (E : Evm σ) (v : View) (st : State σ) (ack : Ack) (r : Res σ)
    (h : hook true E v st ack = .ok r) : r.ack = some ack :=
  (hookG_atomic true true E v st ack r h).1

/-- F7, the code before fix 0f2dacb: whenever the hook returns, it returns Go `nil`. -/
theorem unrepaired_hook_returns_nil (E : Evm σ) (v : View) (st : State σ) (ack : Ack) (r : Res σ)
    (h : hook false E v st ack = .ok r) : r.ack = none :=
  (hookG_atomic true false E v st ack r h).1

def withAck (a : Option Ack) : Outcome (Res σ) → Outcome (Res σ)
  | .ok r => .ok { r with ack := a }
  | .err e => .err e
  | .panic s => .panic s

/-- The repair changes nothing but the returned value: state, event and panics are those of the code before it. -/
theorem repair_changes_only_ack (E : Evm σ) (v : View) (st : State σ) (ack : Ack) :
    hook true E v st ack = withAck (some ack) (hook false E v st ack) := by
  unfold hook
  rcases hookG_cases true E v st with hf | ⟨amt, _, _, he⟩
  · rw [hf, hf]; rfl
  · rw [he, he]
    by_cases hneg : amt < 0
    · rw [if_pos hneg, if_pos hneg]; rfl
    · rw [if_neg hneg, if_neg hneg]
      cases convertCoin E st (v.receiver.getD []) (evmAddr (v.receiver.getD [])) v.denom amt <;> rfl

theorem onRecv_of_failure {fixed : Bool} {E : Evm σ} {view : P → View} {inner : Inner σ P} {st : State σ} {pkt : P}
    (hs : (inner.ack st pkt).success = false) :
    onRecv fixed E view inner st pkt = .ok ⟨some (inner.ack st pkt), inner.effect st pkt, .none⟩ := by
  unfold onRecv
  simp only [hs, Bool.not_false, if_true]

theorem onRecv_of_success {fixed : Bool} {E : Evm σ} {view : P → View} {inner : Inner σ P} {st : State σ} {pkt : P}
    (hs : (inner.ack st pkt).success = true) :
    onRecv fixed E view inner st pkt = hook fixed E (view pkt) (inner.effect st pkt) (inner.ack st pkt) := by
  unfold onRecv
  simp only [hs, Bool.not_true, Bool.false_eq_true, if_false]

theorem coreCommit_of_ack {pre : State σ} {r : Res σ} {a : Ack} (h : r.ack = some a) :
    coreCommit pre r = (some a, if a.success then r.st else pre) := by
  unfold coreCommit
  rw [h]

theorem coreCommit_of_nil {pre : State σ} {r : Res σ} (h : r.ack = none) : coreCommit pre r = (none, r.st) := by
  unfold coreCommit
  rw [h]

/-- Partial correctness, no assumptions: whatever `IBCMiddleware.OnRecvPacket` returns IS the wrapped
    application's acknowledgement. -/
theorem middleware_returns_inner_ack_of_ok (E : Evm σ) (view : P → View) (inner : Inner σ P) (st : State σ) (pkt : P)
    (r : Res σ) (h : onRecv true E view inner st pkt = .ok r) : r.ack = some (inner.ack st pkt) := by
  cases hs : (inner.ack st pkt).success with
  | false => rw [onRecv_of_failure hs] at h; cases h; rfl
  | true => rw [onRecv_of_success hs] at h; exact hook_returns_ack _ _ _ _ _ h

theorem hookG_returns (guard fixed : Bool) (E : Evm σ) (hE : EvmSane E) (v : View) (st : State σ) (ack : Ack)
    (hpos : ∀ a, v.amount = some a → 0 ≤ a) : ∃ r, hookG guard fixed E v st ack = .ok r := by
  rcases hookG_cases guard E v st with hf | ⟨amt, hamt, _, he⟩
  · exact ⟨_, hf fixed ack⟩
  · rw [he, if_neg (Int.not_lt.mpr (hpos amt hamt))]
    cases hc : convertCoin E st (v.receiver.getD []) (evmAddr (v.receiver.getD [])) v.denom amt with
    | ok _ | err _ => exact ⟨_, rfl⟩
    | panic s => exact absurd hc (convertCoin_no_panic E hE _ _ _ _ _ s)

theorem onRecv_returns (fixed : Bool) (E : Evm σ) (hE : EvmSane E) (view : P → View) (inner : Inner σ P)
    (hI : InnerGuards view inner) (st : State σ) (pkt : P) :
    ∃ r, onRecv fixed E view inner st pkt = .ok r := by
  cases hs : (inner.ack st pkt).success with
  | false => exact ⟨_, onRecv_of_failure hs⟩
  | true =>
    rw [onRecv_of_success hs]
    exact hookG_returns true fixed E hE _ _ _ (fun a ha => hI st pkt a hs ha)

/-- The middleware callback never panics — whatever the amount (any integer the transfer
    application accepts: 1 … 2^256−1, no width is special), receiver, denomination, registry and state of an EVM that is
    `EvmSane`. Apart from a contract that withholds `balanceOf`, a panic out of `IBCMiddleware.OnRecvPacket` is therefore never
    a behaviour of the modelled code for a packet the transfer application handles (the harness reports it as
    `C16:callback-panicked`). -/
theorem onRecv_no_panic (fixed : Bool) (E : Evm σ) (hE : EvmSane E) (view : P → View) (inner : Inner σ P)
    (hI : InnerGuards view inner) (st : State σ) (pkt : P) (site : String) :
    onRecv fixed E view inner st pkt ≠ .panic site := by
  obtain ⟨r, hr⟩ := onRecv_returns fixed E hE view inner hI st pkt
  rw [hr]
  exact nofun

/-- … nor does it fail: it always returns a result carrying an acknowledgement and a state. -/
theorem onRecv_total (fixed : Bool) (E : Evm σ) (hE : EvmSane E) (view : P → View) (inner : Inner σ P)
    (hI : InnerGuards view inner) (st : State σ) (pkt : P) :
    (onRecv fixed E view inner st pkt).isOk = true ∧ (onRecv fixed E view inner st pkt).isPanic = false := by
  obtain ⟨r, hr⟩ := onRecv_returns fixed E hE view inner hI st pkt
  rw [hr]; exact ⟨rfl, rfl⟩

/-- For every packet, decoder, registry / bank / EVM state:
    `IBCMiddleware.OnRecvPacket` returns, and returns exactly the wrapped application's acknowledgement. -/
theorem middleware_returns_inner_ack (E : Evm σ) (hE : EvmSane E) (view : P → View) (inner : Inner σ P)
    (hI : InnerGuards view inner) (st : State σ) (pkt : P) :
    ∃ r, onRecv true E view inner st pkt = .ok r ∧ r.ack = some (inner.ack st pkt) := by
  obtain ⟨r, hr⟩ := onRecv_returns true E hE view inner hI st pkt
  exact ⟨r, hr, middleware_returns_inner_ack_of_ok E view inner st pkt r hr⟩

/-- If the wrapped application succeeded, what IBC core commits for the packet is a
    non-nil successful acknowledgement — the wrapped application's — and the callback's state is written. -/
theorem success_is_acknowledged (E : Evm σ) (view : P → View) (inner : Inner σ P) (st : State σ) (pkt : P) (r : Res σ)
    (hs : (inner.ack st pkt).success = true) (h : onRecv true E view inner st pkt = .ok r) :
    coreCommit st r = (some (inner.ack st pkt), r.st) ∧
    ∃ a, (coreCommit st r).1 = some a ∧ a.success = true := by
  rw [coreCommit_of_ack (middleware_returns_inner_ack_of_ok E view inner st pkt r h), hs, if_pos rfl]
  exact ⟨rfl, _, rfl, hs⟩

/-- If the wrapped application failed, the middleware does nothing else: it returns that
    error acknowledgement, core commits it and discards the callback's state changes. -/
theorem error_preserved (fixed : Bool) (E : Evm σ) (view : P → View) (inner : Inner σ P) (st : State σ) (pkt : P)
    (hs : (inner.ack st pkt).success = false) :
    onRecv fixed E view inner st pkt = .ok ⟨some (inner.ack st pkt), inner.effect st pkt, .none⟩ ∧
    coreCommit st ⟨some (inner.ack st pkt), inner.effect st pkt, .none⟩ = (some (inner.ack st pkt), st) := by
  refine ⟨onRecv_of_failure hs, ?_⟩
  rw [coreCommit_of_ack rfl, hs, if_neg Bool.false_ne_true]

/-- For EVERY packet the wrapped application accepts, the code before the fix returns nil, so IBC core writes no
    acknowledgement at all (and still writes the state). -/
theorem unrepaired_never_acknowledges (E : Evm σ) (view : P → View) (inner : Inner σ P) (st : State σ) (pkt : P) (r : Res σ)
    (hs : (inner.ack st pkt).success = true) (h : onRecv false E view inner st pkt = .ok r) :
    r.ack = none ∧ coreCommit st r = (none, r.st) := by
  rw [onRecv_of_success hs] at h
  have hnil := unrepaired_hook_returns_nil _ _ _ _ _ h
  exact ⟨hnil, coreCommit_of_nil hnil⟩

theorem evmAddr_of_length20 {a : Addr} (h : a.length = 20) : evmAddr a = a := by
  unfold evmAddr
  rw [if_pos (Nat.le_of_eq h.symm), h, Nat.sub_self, List.drop_zero]

/-- Full strength; holds of the code with fixes/C16-receiver-length.diff (/repo fix 8e97daf). In `Converted` the
    tokens are credited to the EVM account `evmAddr receiver` (what `common.BytesToAddress` makes of the receiver's bytes).
    After `OnRecvPacket`, whenever a conversion happened the receiver is a 20-byte address and that EVM account IS the
    receiver — the same 20 bytes: the tokens go to the account that lost the vouchers, never to an account nobody chose. -/
theorem conversion_credits_receiver (fixed : Bool) (E : Evm σ) (view : P → View) (inner : Inner σ P) (st : State σ) (pkt : P) (r : Res σ)
    (h : onRecv fixed E view inner st pkt = .ok r) :
    Untouched (inner.effect st pkt) r.st ∨
    (Converted E (view pkt) (inner.effect st pkt) r.st ∧ ((view pkt).receiver.getD []).length = 20 ∧
      evmAddr ((view pkt).receiver.getD []) = (view pkt).receiver.getD []) := by
  cases hs : (inner.ack st pkt).success with
  | false => rw [onRecv_of_failure hs] at h; cases h; exact Or.inl ⟨rfl, rfl⟩
  | true =>
    rw [onRecv_of_success hs] at h
    exact (hookG_atomic true fixed E _ _ _ r h).2.imp id
      (fun ⟨hc, hl⟩ => ⟨hc, hl rfl, evmAddr_of_length20 (hl rfl)⟩)

/-- After `OnRecvPacket` (repaired or not) the state is either exactly the one left by the
    wrapped application (balances and EVM), or that state plus ONE COMPLETE conversion: the receiver's vouchers
    (exactly the packet amount) moved to the module account (escrow; burned for an externally owned pair) AND the
    receiver's token balance reported by the pair's contract grew by exactly the packet amount. -/
theorem conversion_atomic (fixed : Bool) (E : Evm σ) (view : P → View) (inner : Inner σ P) (st : State σ) (pkt : P) (r : Res σ)
    (h : onRecv fixed E view inner st pkt = .ok r) :
    Untouched (inner.effect st pkt) r.st ∨ Converted E (view pkt) (inner.effect st pkt) r.st :=
  (conversion_credits_receiver fixed E view inner st pkt r h).imp id And.left

/-- What is provable of the code before the receiver-length repair (/repo before fix 8e97daf): the
    credited EVM account is the receiver's own only for 20-byte receivers. -/
theorem conversion_credits_receiver_if_len20 (fixed : Bool) (E : Evm σ) (view : P → View) (inner : Inner σ P) (st : State σ) (pkt : P)
    (r : Res σ) (h : onRecvUnguarded fixed E view inner st pkt = .ok r) (hlen : ((view pkt).receiver.getD []).length = 20) :
    Untouched (inner.effect st pkt) r.st ∨
    (Converted E (view pkt) (inner.effect st pkt) r.st ∧ evmAddr ((view pkt).receiver.getD []) = (view pkt).receiver.getD []) := by
  unfold onRecvUnguarded at h
  cases hs : (inner.ack st pkt).success with
  | false => simp only [hs, Bool.not_false, if_true] at h; cases h; exact Or.inl ⟨rfl, rfl⟩
  | true =>
    simp only [hs, Bool.not_true, Bool.false_eq_true, if_false] at h
    exact (hookG_atomic false fixed E _ _ _ r h).2.imp id (fun ⟨hc, _⟩ => ⟨hc, evmAddr_of_length20 hlen⟩)

theorem converted_view {E : Evm σ} {v : View} {sI s : State σ} (h : Converted E v sI s) :
    ∃ amt id p, v.amount = some amt ∧ 0 < amt ∧ sI.denomMap v.denom = some id ∧ sI.pairs id = some p ∧
      sI.blocked (evmAddr (v.receiver.getD [])) = false ∧
      ((p.owner = .module ∧ s.bal = sendCoins sI.bal (v.receiver.getD []) sI.modAddr v.denom amt) ∨
       (p.owner = .external ∧
        s.bal = addBal (sendCoins sI.bal (v.receiver.getD []) sI.modAddr v.denom amt) sI.modAddr v.denom (-amt))) ∧
      s.denomMap = sI.denomMap ∧ s.pairs = sI.pairs ∧ s.enabled = sI.enabled := by
  obtain ⟨amt, id, p, b0, b1, e2, e3, ha, hpos, _, hdm, hpr, _, hbl, _, _, hflow, _, _, hreg⟩ := h
  refine ⟨amt, id, p, ha, hpos, hdm, hpr, hbl, ?_, hreg⟩
  rcases hflow with ⟨ho, _, _, hb⟩ | ⟨ho, _, _, _, _, _, _, hb⟩
  · exact Or.inl ⟨ho, hb⟩
  · exact Or.inr ⟨ho, hb⟩

theorem addBal_of_ne {b : Addr → Denom → Int} {a a' : Addr} {d d' : Denom} {x : Int} (h : ¬ (a' = a ∧ d' = d)) :
    addBal b a d x a' d' = b a' d' :=
  if_neg h

theorem addBal_self (b : Addr → Denom → Int) (a : Addr) (d : Denom) (x : Int) : addBal b a d x a d = b a d + x :=
  if_pos ⟨rfl, rfl⟩

theorem converted_frame {E : Evm σ} {v : View} {sI s : State σ} (h : Converted E v sI s) (a : Addr) (d : Denom)
    (h1 : ¬ (a = v.receiver.getD [] ∧ d = v.denom)) (h2 : ¬ (a = sI.modAddr ∧ d = v.denom)) : s.bal a d = sI.bal a d := by
  obtain ⟨amt, id, p, _, _, _, _, _, hbal, _⟩ := converted_view h
  rcases hbal with ⟨_, hb⟩ | ⟨_, hb⟩
  · rw [hb, sendCoins, addBal_of_ne h2, addBal_of_ne h1]
  · rw [hb, sendCoins, addBal_of_ne h2, addBal_of_ne h2, addBal_of_ne h1]

/-- Reading of `Converted` for the normal (module-owned, `RegisterCoin`) pair in terms of single balances. -/
theorem converted_balances (E : Evm σ) (v : View) (sI s : State σ) (h : Converted E v sI s)
    (hown : ∀ id p, sI.denomMap v.denom = some id → sI.pairs id = some p → p.owner = .module)
    (hne : v.receiver.getD [] ≠ sI.modAddr) :
    ∃ amt, v.amount = some amt ∧ 0 < amt ∧
      s.bal (v.receiver.getD []) v.denom = sI.bal (v.receiver.getD []) v.denom - amt ∧
      s.bal sI.modAddr v.denom = sI.bal sI.modAddr v.denom + amt ∧
      (∀ a d, ¬ (a = v.receiver.getD [] ∧ d = v.denom) → ¬ (a = sI.modAddr ∧ d = v.denom) → s.bal a d = sI.bal a d) := by
  obtain ⟨amt, id, p, ha, hpos, hdm, hpr, _, hbal, _⟩ := converted_view h
  rcases hbal with ⟨_, hb⟩ | ⟨hx, _⟩
  · refine ⟨amt, ha, hpos, ?_, ?_, converted_frame h⟩
    · rw [hb, sendCoins, addBal_of_ne (fun hh => hne hh.1), addBal_self]; rfl
    · rw [hb, sendCoins, addBal_self, addBal_of_ne (fun hh => hne hh.1.symm)]
  · rw [hown id p hdm hpr] at hx; cases hx

/-- The side condition of `converted_balances` holds on the real chain: the aggregate module account is a 20-byte
    address on the bank's blocked list, and `MintingEnabled` refuses blocked receivers. -/
theorem converted_receiver_ne_module (E : Evm σ) (v : View) (sI s : State σ) (h : Converted E v sI s)
    (hlen : sI.modAddr.length = 20) (hblk : sI.blocked sI.modAddr = true) : v.receiver.getD [] ≠ sI.modAddr := by
  obtain ⟨_, _, _, _, _, _, _, hb, _⟩ := converted_view h
  intro heq
  rw [heq, evmAddr_of_length20 hlen, hblk] at hb
  cases hb

/-- On a packet that does not return a coin, the hook's denomination IS the one the transfer application credits
    (both are the voucher of the trace prefixed with the DESTINATION port/channel). -/
theorem hookDenom_eq_credited (H : String → Denom) (f : Fields) (h : hasPrefix f.srcPort f.srcChan f.denom = false) :
    hookDenom H f = creditedDenom H f := by
  unfold hookDenom creditedDenom
  rw [h, if_neg Bool.false_ne_true]

/-- Registry hygiene (named assumption): for a RETURNING coin (`data.Denom` starts with the source port/channel prefix)
    the hook's denomination — the hash of the doubly prefixed trace `dest/ ++ source/ ++ rest` — is not a registered
    denomination. It cannot be: a trace starting with `dest/` is only ever minted by packets received over that very
    destination channel, and over that channel every `data.Denom` starting with `source/` is unescrowed, never minted;
    `RegisterCoin` / `AddCoin` require existing supply. -/
def ReturningHashUnregistered (H : String → Denom) (f : Fields) (sI : State σ) : Prop :=
  hasPrefix f.srcPort f.srcChan f.denom = true → sI.denomMap (hookDenom H f) = none

theorem converted_other_denoms_untouched (E : Evm σ) (v : View) (sI s : State σ) (h : Converted E v sI s) :
    ∀ a d, d ≠ v.denom → s.bal a d = sI.bal a d :=
  fun a d hd => converted_frame h a d (fun hh => hd hh.2) (fun hh => hd hh.2)

/-- For every packet (any source / destination port and channel, any
    `data.Denom`: 0/1/2-hop traces, traces that merely START with the destination prefix, genuinely returning coins):
    after `OnRecvPacket` either nothing but the transfer application's effect is there, or ONE complete conversion
    happened and the denomination converted is exactly the denomination the transfer application credited for this
    packet (`creditedDenom`, transcribed from ibc-go v3 `OnRecvPacket`); no balance of any other denomination changed. -/
theorem hook_converts_credited_denom_only (fixed : Bool) (E : Evm σ) (view : P → View) (inner : Inner σ P)
    (H : String → Denom) (fields : P → Fields) (st : State σ) (pkt : P) (r : Res σ)
    (hv : (view pkt).denom = hookDenom H (fields pkt))
    (hreg : ReturningHashUnregistered H (fields pkt) (inner.effect st pkt))
    (h : onRecv fixed E view inner st pkt = .ok r) :
    Untouched (inner.effect st pkt) r.st ∨
    (Converted E (view pkt) (inner.effect st pkt) r.st ∧ (view pkt).denom = creditedDenom H (fields pkt) ∧
      ∀ a d, d ≠ creditedDenom H (fields pkt) → r.st.bal a d = (inner.effect st pkt).bal a d) := by
  refine (conversion_atomic fixed E view inner st pkt r h).imp id (fun hc => ?_)
  have hden : (view pkt).denom = creditedDenom H (fields pkt) := by
    cases hp : hasPrefix (fields pkt).srcPort (fields pkt).srcChan (fields pkt).denom with
    | false => rw [hv]; exact hookDenom_eq_credited H _ hp
    | true =>
      -- a returning coin: its hook denomination is unregistered, so `MintingEnabled` cannot have passed
      obtain ⟨_, id, _, _, _, hdm, _⟩ := converted_view hc
      rw [hv, hreg hp] at hdm
      cases hdm
  exact ⟨hc, hden, fun a d hd => converted_other_denoms_untouched E _ _ _ hc a d (hden ▸ hd)⟩

/-! The string functions on character lists: a literal is `String.ofList` of its characters by definition, so the examples
    below are decided on lists and no string is decoded by evaluation. -/

theorem denomPrefix_ofList (p c : List Char) :
    denomPrefix (String.ofList p) (String.ofList c) = String.ofList (p ++ '/' :: (c ++ ['/'])) := by
  apply String.toList_injective
  unfold denomPrefix
  rw [String.toList_append, String.toList_append, String.toList_append]
  repeat rw [String.toList_ofList]
  rw [List.append_assoc, List.append_assoc]
  rfl

theorem hasPrefix_ofList (p c d : List Char) :
    hasPrefix (String.ofList p) (String.ofList c) (String.ofList d) = (p ++ '/' :: (c ++ ['/'])).isPrefixOf d := by
  unfold hasPrefix
  rw [denomPrefix_ofList, String.toList_ofList, String.toList_ofList]

theorem stripPrefix_ofList (p c d : List Char) :
    stripPrefix (String.ofList p) (String.ofList c) (String.ofList d)
      = String.ofList (d.drop (p ++ '/' :: (c ++ ['/'])).length) := by
  unfold stripPrefix
  rw [denomPrefix_ofList, String.toList_ofList, String.toList_ofList]

theorem voucherOf_ofList (H : String → Denom) (l : List Char) :
    voucherOf H (String.ofList l) = if l.contains '/' then H (String.ofList l) else String.ofList l := by
  unfold voucherOf
  rw [String.toList_ofList]

/-- The look-alike case is real: with asymmetric channel ids a foreign voucher whose trace starts with the DESTINATION
    prefix is NOT a returning coin — the transfer application credits the voucher of the doubly prefixed trace, and so
    does the hook (stripping with the destination prefix would name the unrelated coin `acoin`). -/
example (H : String → Denom) :
    let f : Fields := { srcPort := "transfer", srcChan := "channel-7", dstPort := "transfer", dstChan := "channel-0",
                        denom := "transfer/channel-0/acoin" }
    creditedDenom H f = H "transfer/channel-0/transfer/channel-0/acoin" ∧ hookDenom H f = creditedDenom H f ∧
    voucherOf H (stripPrefix f.dstPort f.dstChan f.denom) = "acoin" := by
  intro f
  have hp : hasPrefix f.srcPort f.srcChan f.denom = false := by
    rw [hasPrefix_ofList]
    decide
  refine ⟨?_, hookDenom_eq_credited H f hp, ?_⟩
  · rw [← hookDenom_eq_credited H f hp]
    unfold hookDenom
    rw [denomPrefix_ofList, ← String.ofList_append]
    rfl
  · rw [stripPrefix_ofList, voucherOf_ofList]
    rfl

/-- … while the genuinely returning coin is unescrowed under its own name. -/
example (H : String → Denom) :
    creditedDenom H { srcPort := "transfer", srcChan := "channel-7", dstPort := "transfer", dstChan := "channel-0",
                      denom := "transfer/channel-7/atele" } = "atele" := by
  unfold creditedDenom
  rw [hasPrefix_ofList, stripPrefix_ofList, voucherOf_ofList]
  rfl

theorem onAcknowledgement_passthrough {ε} (x : Option ε) : onAcknowledgement x = x := by
  cases x <;> rfl

theorem onTimeout_passthrough {ε} (x : Option ε) : onTimeout x = x := rfl

/-- One step of a chain history as far as the middleware is concerned: a packet delivered through IBC core, or
    anything else (governance registering / toggling pairs, parameter changes, other transactions). -/
inductive Op (σ P : Type) where
  | recv (pkt : P)
  | other (f : State σ → State σ)
  | restart                       -- aggregate export / import
  | dry (pkt : P)                 -- the callback on a dropped context

/-- Runs a history through core + middleware; logs, per delivered packet, (acknowledgement committed by core,
    acknowledgement of the wrapped application). A panic aborts the transaction: nothing is committed or logged. -/
def run (E : Evm σ) (view : P → View) (inner : Inner σ P) : State σ → List (Op σ P) → List (Option Ack × Ack)
  | _, [] => []
  | st, .other f :: rest => run E view inner (f st) rest
  | st, .restart :: rest => run E view inner (restart st) rest
  | st, .dry pkt :: rest => run E view inner (dropped true E view inner st pkt) rest
  | st, .recv pkt :: rest =>
    match onRecv true E view inner st pkt with
    | .ok r => ((coreCommit st r).1, inner.ack st pkt) :: run E view inner (coreCommit st r).2 rest
    | _ => run E view inner st rest

theorem restart_identity (st : State σ) : restart st = st := rfl

theorem dropped_identity (fixed : Bool) (E : Evm σ) (view : P → View) (inner : Inner σ P) (st : State σ) (pkt : P) :
    dropped fixed E view inner st pkt = st := rfl

/-- Restarts and dropped executions anywhere in a history change nothing that follows. -/
theorem run_ignores_restart_and_dry (E : Evm σ) (view : P → View) (inner : Inner σ P) (ops : List (Op σ P)) :
    ∀ st, run E view inner st ops =
      run E view inner st (ops.filter (fun o => match o with | .restart => false | .dry _ => false | _ => true)) := by
  induction ops with
  | nil => intro st; rfl
  | cons op rest ih =>
    intro st
    cases op with
    | other _ | restart | dry _ => exact ih _
    | recv pkt =>
      rw [List.filter_cons_of_pos rfl, run, run]
      cases onRecv true E view inner st pkt with
      | ok r => exact congrArg _ (ih _)
      | err _ | panic _ => exact ih st

/-- a packet refused by the stateless stage has no effect at all (the middleware never runs) -/
theorem rejected_never_runs (fixed : Bool) (E : Evm σ) (view : P → View) (inner : Inner σ P) (wire : P → Wire) (st : State σ) (pkt : P)
    (h : packetValidateBasic (wire pkt) = false) : deliverMsg fixed E view inner wire st pkt = none := by
  simp [deliverMsg, h]

/-- … and an accepted one is exactly the handler's run. -/
theorem accepted_is_handler (fixed : Bool) (E : Evm σ) (view : P → View) (inner : Inner σ P) (wire : P → Wire) (st : State σ) (pkt : P)
    (h : packetValidateBasic (wire pkt) = true) :
    deliverMsg fixed E view inner wire st pkt = some (onRecv fixed E view inner st pkt) := by
  simp [deliverMsg, h]

/-- **Over histories** (with restarts and dropped executions anywhere): in every history, from every state, every
    delivered packet gets exactly the wrapped application's acknowledgement committed. -/
theorem every_packet_acknowledged (E : Evm σ) (view : P → View) (inner : Inner σ P) (ops : List (Op σ P)) :
    ∀ st, ∀ e ∈ run E view inner st ops, e.1 = some e.2 := by
  induction ops with
  | nil => intro st e he; cases he
  | cons op rest ih =>
    intro st e he
    cases op with
    | other _ | restart | dry _ => exact ih _ e he
    | recv pkt =>
      rw [run] at he
      generalize hr : onRecv true E view inner st pkt = o at he
      cases o with
      | ok r =>
        rcases List.mem_cons.mp he with h | h
        · rw [h, coreCommit_of_ack (middleware_returns_inner_ack_of_ok E view inner st pkt r hr)]
        · exact ih _ e h
      | err _ | panic _ => exact ih st e he

/-- … and no delivered packet is lost: under the guards every `recv` of the history is logged. -/
theorem every_packet_logged (E : Evm σ) (hE : EvmSane E) (view : P → View) (inner : Inner σ P) (hI : InnerGuards view inner)
    (ops : List (Op σ P)) :
    ∀ st, (run E view inner st ops).length = (ops.filter (fun o => match o with | .recv _ => true | _ => false)).length := by
  induction ops with
  | nil => intro st; rfl
  | cons op rest ih =>
    intro st
    cases op with
    | other _ | restart | dry _ => exact ih _
    | recv pkt =>
      obtain ⟨r, hr⟩ := onRecv_returns true E hE view inner hI st pkt
      rw [run, hr, List.filter_cons_of_pos rfl]
      exact congrArg Nat.succ (ih _)

/-- Whatever packet is delivered: relative to the wrapped application's own effect, no
    balance of any account other than the packet's receiver and the module account changes, in any denomination
    (two receivers / two channels / two counterparties interleaved do not interfere through the middleware). -/
theorem other_accounts_untouched (fixed : Bool) (E : Evm σ) (view : P → View) (inner : Inner σ P) (st : State σ) (pkt : P) (r : Res σ)
    (h : onRecv fixed E view inner st pkt = .ok r) :
    ∀ a d, a ≠ (view pkt).receiver.getD [] → a ≠ (inner.effect st pkt).modAddr →
      r.st.bal a d = (inner.effect st pkt).bal a d := by
  intro a d h1 h2
  rcases conversion_atomic fixed E view inner st pkt r h with hu | hc
  · rw [hu.1]
  · exact converted_frame hc a d (fun hh => h1 hh.1) (fun hh => h2 hh.1)

/-- A conversion never touches the registry: every pair — in particular every OTHER pair and every other denomination of a
    multi-denomination pair — keeps its contract, denominations, owner and enabled flag. -/
theorem converted_registry_untouched (E : Evm σ) (v : View) (sI s : State σ) (h : Converted E v sI s) :
    s.denomMap = sI.denomMap ∧ s.pairs = sI.pairs ∧ s.enabled = sI.enabled := by
  obtain ⟨_, _, _, _, _, _, _, _, _, hreg⟩ := converted_view h
  exact hreg

section Witness

/-- A minimal honest ERC-20 ledger: one balance table, `mint` adds. -/
def ledgerEvm : Evm (Addr → Nat) :=
  { isContract := fun _ _ => true
    balanceOf := fun s _ a => (s, some (s a))
    mint := fun s _ a amt => some (fun x => if x = a then s x + amt.toNat else s x)
    transfer := fun _ _ _ _ => none }

theorem ledgerEvm_sane : EvmSane ledgerEvm := by
  constructor
  · intro s c a amt s2 _; simp [ledgerEvm]
  · intro s c a m amt s2 ap h; simp [ledgerEvm] at h

def wRecv : Addr := List.replicate 20 7
def wMod : Addr := List.replicate 20 9
def wDenom : Denom := "ibc/V"

/-- voucher `ibc/V` registered, enabled, module-owned. -/
def wState : State (Addr → Nat) :=
  { enabled := true
    denomMap := fun d => if d = wDenom then some 0 else none
    pairs := fun i => if i = 0 then some { contract := 0, enabled := true, owner := .module, denoms := [wDenom] } else none
    bal := fun _ _ => 0
    blocked := fun a => a = wMod
    sendEnabled := fun _ => true
    modAddr := wMod
    evm := fun _ => 0 }

def wView : Unit → View := fun _ => { decodeOk := true, amount := some 5, receiver := some wRecv, denom := wDenom }

/-- the ICS-20 application: mints 5 vouchers to the receiver, acknowledges `{"result":"AQ=="}`. -/
def wInner : Inner (Addr → Nat) Unit :=
  { ack := fun _ _ => .result [1]
    effect := fun s _ => { s with bal := addBal s.bal wRecv wDenom 5 } }

theorem wInner_guards : InnerGuards wView wInner := by
  intro st pkt a _ h
  simp [wView] at h
  omega

/-- **Witness of F7** (the unrepaired hook violates `middleware_returns_inner_ack`): on this ordinary packet the
    code before the fix returns nil while the transfer application returned a success acknowledgement; core commits no
    acknowledgement. -/
theorem unrepaired_violates_transparency :
    ∃ r, onRecv false ledgerEvm wView wInner wState () = .ok r ∧
      r.ack ≠ some (wInner.ack wState ()) ∧ (coreCommit wState r).1 = none := by
  obtain ⟨r, hr⟩ := onRecv_returns false ledgerEvm ledgerEvm_sane wView wInner wInner_guards wState ()
  have := unrepaired_never_acknowledges ledgerEvm wView wInner wState () r rfl hr
  refine ⟨r, hr, ?_, ?_⟩
  · rw [this.1]; simp
  · rw [this.2]

/-- The same packet through the repaired middleware: acknowledged, and the conversion really happens
    (the `Converted` branch of `conversion_atomic` is inhabited, the theorems are not vacuous). -/
theorem repaired_witness :
    ∃ r, onRecv true ledgerEvm wView wInner wState () = .ok r ∧
      r.ack = some (.result [1]) ∧ r.ev = .success ∧
      r.st.bal wRecv wDenom = 0 ∧ r.st.bal wMod wDenom = 5 ∧ r.st.evm (evmAddr wRecv) = 5 := by
  refine ⟨_, rfl, ?_, ?_, ?_, ?_, ?_⟩ <;> decide

/-- An honest ledger for an EXTERNALLY owned pair: `transfer` debits the module account `wMod`, credits the receiver. -/
def ledgerEvmX : Evm (Addr → Nat) :=
  { isContract := fun _ _ => true
    balanceOf := fun s _ a => (s, some (s a))
    mint := fun _ _ _ _ => none
    transfer := fun s _ a amt =>
      if s wMod < amt.toNat then none
      else some (fun x => if x = a then (if a = wMod then s x else s x + amt.toNat)
                          else if x = wMod then s x - amt.toNat else s x, some true, false) }

def wStateX : State (Addr → Nat) :=
  { wState with
    pairs := fun i => if i = 0 then some { contract := 0, enabled := true, owner := .external, denoms := [wDenom] } else none
    evm := fun a => if a = wMod then 100 else 0 }

/-- The externally-owned flow (with the module-escrow check, /repo fix 320c042) is inhabited too: 5 vouchers received,
    escrowed and burned, 5 tokens moved from the module's token balance (100 → 95) to the receiver. -/
theorem external_witness :
    ∃ r, onRecv true ledgerEvmX wView wInner wStateX () = .ok r ∧
      r.ack = some (.result [1]) ∧ r.ev = .success ∧
      r.st.bal wRecv wDenom = 0 ∧ r.st.bal wMod wDenom = 0 ∧ r.st.evm (evmAddr wRecv) = 5 ∧ r.st.evm wMod = 95 := by
  refine ⟨_, rfl, ?_, ?_, ?_, ?_, ?_, ?_⟩ <;> decide

/-- a 32-byte account address (what `address.Module` / derived / interchain accounts are) -/
def wRecv32 : Addr := List.replicate 12 3 ++ List.replicate 20 7

def wView32 : Unit → View := fun _ => { decodeOk := true, amount := some 5, receiver := some wRecv32, denom := wDenom }

def wInner32 : Inner (Addr → Nat) Unit :=
  { ack := fun _ _ => .result [1]
    effect := fun s _ => { s with bal := addBal s.bal wRecv32 wDenom 5 } }

/-- Witness that the FULL-strength `conversion_credits_receiver` is false of
    the code before fixes/C16-receiver-length.diff: a 32-byte receiver gets 5 vouchers, the hook escrows them from that
    account and mints the 5 tokens to the 20-byte EVM account made of its LAST 20 bytes — a different account. -/
theorem conversion_credits_foreign_account_len32 :
    ∃ r, onRecvUnguarded true ledgerEvm wView32 wInner32 wState () = .ok r ∧
      r.ev = .success ∧ r.st.bal wRecv32 wDenom = 0 ∧ r.st.bal wMod wDenom = 5 ∧
      r.st.evm (evmAddr wRecv32) = 5 ∧ evmAddr wRecv32 ≠ wRecv32 ∧ wRecv32.length = 32 := by
  refine ⟨_, rfl, ?_, ?_, ?_, ?_, ?_, ?_⟩ <;> decide

/-- The same packet through the repaired hook: acknowledged, nothing converted, the vouchers stay with the receiver. -/
theorem len32_left_untouched_by_repaired_hook :
    ∃ r, onRecv true ledgerEvm wView32 wInner32 wState () = .ok r ∧
      r.ack = some (.result [1]) ∧ r.ev = .failed ∧ r.st.bal wRecv32 wDenom = 5 ∧ r.st.bal wMod wDenom = 0 ∧
      r.st.evm (evmAddr wRecv32) = 0 := by
  refine ⟨_, rfl, ?_, ?_, ?_, ?_, ?_⟩ <;> decide +kernel

end Witness

end TM.Ics20
