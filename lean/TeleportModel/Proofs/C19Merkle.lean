import TeleportModel.Model.Merkle
import TeleportModel.Generated.HostKeys
import TeleportModel.Generated.Validate
import TeleportModel.Generated.Merkle
import TeleportModel.Proofs.C19Host
import TeleportModel.Proofs.C19Cons
import TeleportModel.Proofs.C19Scan
/-
C19 — the Merkle path codec. The key bytes a proof is verified against (`GetKey`) are the key bytes the keeper
stored: in this tree a MerklePath is built WITHOUT escaping (NewMerklePath / ApplyPrefix keep their arguments verbatim) and
`GetKey` applies url.PathUnescape, which is the identity exactly on strings without '%'; every packet path of valid chain
names is such a string. The text form (`String` = PathEscape, `Pretty` = PathUnescape) is a symmetric pair on ALL bytes.
QueryUnescape in their place turns '+' — a valid identifier character — into a space.
-/
namespace TM.C19
open TM TM.Host TM.Merkle TM.Generated

theorem upperHex_spec : ∀ n : Fin 16, isHex (upperHex n.val) = true ∧ unHex (upperHex n.val) = n.val := by decide +kernel

theorem hexHi_lt (c : UInt8) : c.toNat / 16 < 16 := Nat.div_lt_of_lt_mul (show c.toNat < 16 * 16 from c.toNat_lt)
theorem hexLo_lt (c : UInt8) : c.toNat % 16 < 16 := Nat.mod_lt _ (by decide)

theorem decode_byte (c : UInt8) :
    UInt8.ofNat (16 * unHex (upperHex (c.toNat / 16)) + unHex (upperHex (c.toNat % 16))) = c := by
  rw [(upperHex_spec ⟨_, hexHi_lt c⟩).2, (upperHex_spec ⟨_, hexLo_lt c⟩).2, Nat.div_add_mod c.toNat 16, UInt8.ofNat_toNat]

theorem unescapeSt_pct (q : Bool) (a b : UInt8) (r : Bytes) (ha : isHex a = true) (hb : isHex b = true) :
    unescapeSt q .normal (37 :: a :: b :: r) =
      (unescapeSt q .normal r).map (fun t => UInt8.ofNat (16 * unHex a + unHex b) :: t) := by
  rw [unescapeSt, if_pos rfl, unescapeSt, if_pos ha, unescapeSt, if_pos hb]

theorem unescapeSt_plus (q : Bool) (r : Bytes) :
    unescapeSt q .normal (43 :: r) = (unescapeSt q .normal r).map (fun t => (if q then 32 else 43) :: t) := by
  rw [unescapeSt, if_neg (by decide), if_pos rfl]

theorem unescapeSt_plain (q : Bool) (c : UInt8) (r : Bytes) (h37 : c ≠ 37) (h43 : c ≠ 43) :
    unescapeSt q .normal (c :: r) = (unescapeSt q .normal r).map (fun t => c :: t) := by
  rw [unescapeSt, if_neg h37, if_neg h43]

theorem shouldEscape_pct (q : Bool) : shouldEscape q 37 = true := by cases q <;> decide +kernel

/-- unescape ∘ escape = id for BOTH matched pairs, on ALL byte strings, also in front of any rest -/
theorem unescape_escape_append (q : Bool) (s t : Bytes) :
    unescapeSt q .normal (escape q s ++ t) = (unescapeSt q .normal t).map (fun u => s ++ u) := by
  fun_induction escape q s with
  | case1 => simp only [List.nil_append, Option.map_id']
  | case2 c r hsp ih =>
    obtain ⟨rfl, rfl⟩ : c = 32 ∧ q = true := by simpa using hsp
    rw [List.cons_append, unescapeSt_plus, ih, Option.map_map]; rfl
  | case3 c r hsp hesc ih =>
    rw [List.cons_append, List.cons_append, List.cons_append,
      unescapeSt_pct q _ _ _ (upperHex_spec ⟨_, hexHi_lt c⟩).1 (upperHex_spec ⟨_, hexLo_lt c⟩).1, decode_byte, ih, Option.map_map]
    rfl
  | case4 c r hsp hesc ih =>
    have h37 : c ≠ 37 := fun h => hesc (h ▸ shouldEscape_pct q)
    by_cases h43 : c = 43
    · subst h43
      have hq : q = false := by cases q with | false => rfl | true => exact absurd (by decide +kernel) hesc
      subst hq
      rw [List.cons_append, unescapeSt_plus, ih, Option.map_map]; rfl
    · rw [List.cons_append, unescapeSt_plain q c _ h37 h43, ih, Option.map_map]; rfl

/-- PathUnescape (PathEscape s) = s and QueryUnescape (QueryEscape s) = s, for ALL byte strings -/
theorem unescape_escape (q : Bool) (s : Bytes) : unescape q (escape q s) = some s := by
  have := unescape_escape_append q s []
  rw [List.append_nil] at this
  rw [unescape, this, unescapeSt, Option.map_some, List.append_nil]

/-- PathUnescape is the identity exactly when there is nothing to unescape: no '%' -/
theorem pathUnescape_noPercent (s : Bytes) (h : (37 : UInt8) ∉ s) : unescape false s = some s := by
  unfold unescape
  induction s with
  | nil => rfl
  | cons c r ih =>
    have hc : c ≠ 37 := Ne.symm (List.ne_of_not_mem_cons h)
    have ihr := ih (List.not_mem_of_not_mem_cons h)
    by_cases hp : c = 43
    · rw [hp, unescapeSt_plus, ihr]; rfl
    · rw [unescapeSt_plain false c r hc hp, ihr]; rfl

/-- the codec of this tree: build verbatim, read back with PathUnescape; text form PathEscape / PathUnescape -/
def codecShape : Codec :=
  { newMerklePath := .none, applyPrefix := .none, string := .pathEscape, pretty := .pathUnescape, getKey := .pathUnescape }

/-- **GetKey returns the key-path element it was built from**, for every element without '%' (and the prefix) -/
theorem merkle_key_roundtrip (pre s : Bytes) (hpre : pre ≠ []) (hs : (37 : UInt8) ∉ s) :
    proofKey codecShape pre s = some s := by
  simp [proofKey, applyPrefix, hpre, newMerklePath, getKey, codecShape, applyEscape, applyUnescape, pathUnescape_noPercent s hs]

/-- for ALL byte strings: the element a path is built from is recovered from its text form (String / Pretty) -/
theorem merkle_text_roundtrip (s : Bytes) :
    pathPretty codecShape (newMerklePath codecShape [s]) = some (slash :: s) := by
  have := unescape_escape false s
  unfold unescape at this
  simp [pathPretty, pathString, newMerklePath, codecShape, applyEscape, applyUnescape, unescape, unescapeSt, slash, this]

/-- … and an escaped element is read back by GetKey as the original bytes, for ALL byte strings (the symmetric pair) -/
theorem merkle_escaped_key_roundtrip (s : Bytes) :
    getKey codecShape [applyEscape .pathEscape s] 0 = some s := by
  simp [getKey, codecShape, applyEscape, applyUnescape, unescape_escape]

/-! ### packet paths of valid names contain no '%' -/

/-- the proof key of a packet path equals the stored key, for every template of `PacketShape` whose literals and names
    are '%'-free -/
theorem merkle_packet_key (T : Template) (p0 m0 a b pre k : Bytes) (n : UInt64) (hT : PacketShape T p0 m0)
    (hp0 : (37 : UInt8) ∉ p0) (hm0 : (37 : UInt8) ∉ m0) (ha : (37 : UInt8) ∉ a) (hb : (37 : UInt8) ∉ b)
    (hpre : pre ≠ []) (hk : render T [.s a, .s b, .n n] = some k) : proofKey codecShape pre k = some k := by
  apply merkle_key_roundtrip pre k hpre
  rw [render_packet T p0 m0 a b n hT] at hk
  cases hk
  have hd := toDec_noByte n 37 (by decide)
  simp only [List.mem_append, List.mem_cons, not_or]
  exact ⟨hp0, by decide, ha, by decide, hb, by decide, hm0, by decide, hd⟩

/-- the named functions are (verbatim build, PathEscape for the text, PathUnescape to read back) — the only symmetric
    choice that leaves '+' alone -/
theorem merkle_escape_pair_symmetric : Merkle.codec = codecShape := rfl

/-- every proof verification of the Tendermint client proves the very template the keeper stores under -/
theorem proofPaths_same_template : ∀ p ∈ Merkle.proofPaths, p.pathT = p.keyT := by decide +kernel

theorem proofPaths_known : Merkle.proofPaths.map (fun p => (p.fn, p.pathFn)) =
    [("VerifyPacketCommitment", "PacketCommitmentPath"), ("VerifyPacketAcknowledgement", "PacketAcknowledgementPath")] := rfl

theorem proofPaths_shape : ∀ p ∈ Merkle.proofPaths,
    PacketShape p.keyT (p0Of p.keyT) (m0Of p.keyT) ∧ (37 : UInt8) ∉ p0Of p.keyT ∧ (37 : UInt8) ∉ m0Of p.keyT := by decide +kernel

theorem srcChain_excludesPercent :
    (Validate.srcChainValidator.checks.contains .charClass && !inClass Validate.srcChainValidator.cls 37) = true := by decide +kernel
theorem dstChain_excludesPercent :
    (Validate.dstChainValidator.checks.contains .charClass && !inClass Validate.dstChainValidator.cls 37) = true := by decide +kernel

/-- **the statement on the generated tables**: for every proof verification of the Tendermint client, all VALID chain names
    (every character IsValidID admits, '+' included) and ALL sequences, the key looked up in the proof is the key stored -/
theorem generated_merkle_key_roundtrip (p : ProofPath) (hp : p ∈ Merkle.proofPaths) (a b pre path key : Bytes) (n : UInt64)
    (ha : validName Validate.srcChainValidator a = true) (hb : validName Validate.dstChainValidator b = true)
    (hpre : pre ≠ []) (hpath : render p.pathT [.s a, .s b, .n n] = some path)
    (hkey : render p.keyT [.s a, .s b, .n n] = some key) :
    proofKey Merkle.codec pre path = some key := by
  rw [proofPaths_same_template p hp, hkey] at hpath
  obtain rfl := Option.some.inj hpath
  rw [merkle_escape_pair_symmetric]
  obtain ⟨h1, h2, h3⟩ := proofPaths_shape p hp
  exact merkle_packet_key p.keyT _ _ a b pre key n h1 h2 h3
    (validName_noByte _ 37 srcChain_excludesPercent a ha) (validName_noByte _ 37 dstChain_excludesPercent b hb) hpre hkey

/-! ### the defect as a witness: QueryUnescape in GetKey reads `ab+cd` back as `ab cd` -/
theorem query_unescape_changes_plus :
    proofKey { codecShape with getKey := .queryUnescape } [120] [97, 98, 43, 99, 100] = some [97, 98, 32, 99, 100] := by decide +kernel

/-- … and verbatim build + PathUnescape is NOT the identity on strings with '%' (why the '%'-freeness above is needed) -/
theorem raw_percent_is_unescaped : proofKey codecShape [120] [37, 52, 49] = some [65] := by decide +kernel

end TM.C19
