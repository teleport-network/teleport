import TeleportModel.Model.Host
import TeleportModel.Generated.HostKeys
import TeleportModel.Generated.Validate
import TeleportModel.Proofs.C19Abi
import TeleportModel.Proofs.C19Host
/-
C19 — consensus-state / client-state keys (fixed-width binary heights, positional parsers) for ALL
uint64 revisions and heights, the light-client store filters, and the obligations over the generated tables.
-/
namespace TM.C19
open TM TM.Host TM.Generated

theorem be8_length (n : UInt64) : (be8 n).length = 8 := length_toBE 8 _

theorem ofBE_be8 (n : UInt64) : UInt64.ofNat (ofBE (be8 n)) = n :=
  (congrArg UInt64.ofNat (ofBE_toBE 8 n.toNat n.toNat_lt)).trans UInt64.ofNat_toNat

theorem take_be8 (n : UInt64) (X : Bytes) : (be8 n ++ X).take 8 = be8 n := List.take_left' (be8_length n)

theorem drop_be8 (n : UInt64) (X : Bytes) : (be8 n ++ X).drop 8 = X := List.drop_left' (be8_length n)

theorem take_be8_self (n : UInt64) : (be8 n).take 8 = be8 n := List.take_of_length_le (Nat.le_of_eq (be8_length n))

theorem render_heightKey (skip : Bytes) (r h : UInt64) :
    render { params := [.height], segs := [.lit skip, .revBE 0, .heightBE 0] } [.h r h] = some (skip ++ (be8 r ++ be8 h)) := by
  simp only [render, renderSegs, renderSeg, Arg.ty, List.map_cons, List.map_nil, if_true, List.getElem?_cons_zero,
    List.append_nil]

theorem heightKey_length (skip : Bytes) (r h : UInt64) : (skip ++ (be8 r ++ be8 h)).length = skip.length + 16 := by
  simp only [List.length_append, be8_length]

theorem hasPrefix_iff (s p : Bytes) : hasPrefix s p = true ↔ p <+: s := List.isPrefixOf_iff_prefix

theorem hasPrefix_append (p r : Bytes) : hasPrefix (p ++ r) p = true :=
  (hasPrefix_iff _ _).mpr (List.prefix_append p r)

theorem idxSlash_append (a r : Bytes) (h : slash ∉ a) : idxSlash (a ++ slash :: r) = some a.length := by
  induction a with
  | nil => simp [idxSlash]
  | cons b a ih =>
    simp at h
    simp [idxSlash, Ne.symm h.1, ih h.2]

theorem splitClientKey_spec (c : Consts) (name path : Bytes) (h : slash ∉ name) :
    splitClientKey c (c.clientStorePrefix ++ slash :: (name ++ slash :: path)) = some (name, path) := by
  have hk : c.clientStorePrefix ++ slash :: (name ++ slash :: path) = (c.clientStorePrefix ++ [slash]) ++ (name ++ slash :: path) := by simp
  unfold splitClientKey
  simp only [hk, hasPrefix_append, if_true, List.drop_left, idxSlash_append name path h, List.take_left,
    List.drop_length_add_append, List.drop_succ_cons, List.drop_zero]

/-- shape of `FullConsensusStateKey`: "<clients>/<name>/<consensusStates>/" ++ 8 bytes ++ 8 bytes -/
def ConsShape (T : Template) (c : Consts) : Prop :=
  T = { params := [.str, .height],
        segs := [.lit (c.clientStorePrefix ++ [slash]), .str 0, .lit (slash :: (c.consensusStatePrefix ++ [slash])), .revBE 1, .heightBE 1] }

instance (T : Template) (c : Consts) : Decidable (ConsShape T c) := by unfold ConsShape; infer_instance

theorem render_cons (T : Template) (c : Consts) (name : Bytes) (r h : UInt64) (hT : ConsShape T c) :
    render T [.s name, .h r h] =
      some (c.clientStorePrefix ++ slash :: (name ++ slash :: ((c.consensusStatePrefix ++ [slash]) ++ (be8 r ++ be8 h)))) := by
  rw [hT]
  simp only [render, renderSegs, renderSeg, Arg.ty, List.map_cons, List.map_nil, if_true, List.getElem?_cons_zero,
    List.getElem?_cons_succ, List.append_assoc, List.cons_append, List.append_nil, List.nil_append]

/-- **every consensus-state key is read back as the (chain name, height) it was written for** — for ALL uint64
    revision numbers and heights, including bytes 0x2f, 0x00, 0xff (`IterateConsensusStates`) -/
theorem cons_key_parses (T : Template) (c : Consts) (name k : Bytes) (r h : UInt64) (hT : ConsShape T c)
    (hn : slash ∉ name) (hk : render T [.s name, .h r h] = some k) :
    parseConsKey c k = some (name, r, h) := by
  rw [render_cons T c name r h hT] at hk
  cases hk
  unfold parseConsKey
  rw [splitClientKey_spec c name _ hn]
  simp only [heightKey_length, hasPrefix_append, List.drop_left, take_be8, drop_be8, ofBE_be8, ne_eq, not_true_eq_false,
    decide_false, Bool.not_true, Bool.or_self, Bool.false_eq_true, if_false]

theorem cons_key_injective (T : Template) (c : Consts) (name name' k : Bytes) (r h r' h' : UInt64) (hT : ConsShape T c)
    (hn : slash ∉ name) (hn' : slash ∉ name')
    (hk : render T [.s name, .h r h] = some k) (hk' : render T [.s name', .h r' h'] = some k) :
    (name, r, h) = (name', r', h') :=
  Option.some.inj ((cons_key_parses T c name k r h hT hn hk).symm.trans (cons_key_parses T c name' k r' h' hT hn' hk'))

/-- shape of `FullClientStateKey`: "<clients>/<name>/<clientState>" -/
def ClientShape (T : Template) (c : Consts) : Prop :=
  T = { params := [.str], segs := [.lit (c.clientStorePrefix ++ [slash]), .str 0, .lit (slash :: c.clientState)] }

instance (T : Template) (c : Consts) : Decidable (ClientShape T c) := by unfold ClientShape; infer_instance

/-- client-state keys are read back under their chain name (`IterateClients`) -/
theorem client_key_parses (T : Template) (c : Consts) (name k : Bytes) (hT : ClientShape T c)
    (hn : slash ∉ name) (hk : render T [.s name] = some k) : parseClientKey c k = some name := by
  rw [hT] at hk
  simp [render, renderSegs, renderSeg, Arg.ty] at hk
  subst hk
  unfold parseClientKey
  rw [splitClientKey_spec c name _ hn]
  simp

/-- a consensus-state key is never mistaken for a client-state key -/
theorem cons_key_not_client (T : Template) (c : Consts) (name k : Bytes) (r h : UInt64) (hT : ConsShape T c)
    (hn : slash ∉ name) (hk : render T [.s name, .h r h] = some k)
    (hne : c.clientState.length ≠ c.consensusStatePrefix.length + 17) : parseClientKey c k = none := by
  rw [render_cons T c name r h hT] at hk
  cases hk
  have : (c.consensusStatePrefix ++ [slash]) ++ (be8 r ++ be8 h) ≠ c.clientState :=
    fun he => hne (by rw [← he, heightKey_length, List.length_append]; rfl)
  unfold parseClientKey
  rw [splitClientKey_spec c name _ hn]
  simp only [this, if_false]

/-- height bytes relative to the client store: "<consensusStates>/" ++ 8 ++ 8 -/
def RelConsShape (T : Template) (c : Consts) : Prop :=
  T = { params := [.height], segs := [.lit (c.consensusStatePrefix ++ [slash]), .revBE 0, .heightBE 0] }

instance (T : Template) (c : Consts) : Decidable (RelConsShape T c) := by unfold RelConsShape; infer_instance

theorem render_relCons (T : Template) (c : Consts) (r h : UInt64) (hT : RelConsShape T c) :
    render T [.h r h] = some ((c.consensusStatePrefix ++ [slash]) ++ (be8 r ++ be8 h)) := by
  rw [hT]; exact render_heightKey _ r h

/-- BSC / ETH `IterateConsensusStateAscending`: a consensus-state key passes the filter and yields its height -/
theorem evm_cons_key_readback (T : Template) (c : Consts) (k : Bytes) (r h : UInt64) (hT : RelConsShape T c)
    (hk : render T [.h r h] = some k) : evmIsConsKey c k = true ∧ evmHeightFromKey c k = .ok (r, h) := by
  rw [render_relCons T c r h hT] at hk
  cases hk
  have hl : (c.consensusStatePrefix ++ [slash]).length = c.consensusStatePrefix.length + 1 := List.length_append
  have hk := heightKey_length (c.consensusStatePrefix ++ [slash]) r h
  rw [hl] at hk
  constructor
  · simp only [evmIsConsKey, hk, decide_true]
  · unfold evmHeightFromKey
    rw [if_neg (Nat.not_lt.mpr (hk ▸ Nat.le_add_right _ 16)), ← hl, List.drop_left]
    simp only [List.length_append, be8_length, take_be8, drop_be8, bigEndianToUint64, take_be8_self, ofBE_be8,
      Nat.reduceAdd, Nat.reduceLT, Nat.reduceEqDiff, if_false]

/-- Tendermint `IterateProcessedTime`: processed-time keys are visited, bare consensus-state keys are not -/
theorem tm_processed_time_filter (T : Template) (c : Consts) (k : Bytes) (r h : UInt64) (hT : RelConsShape T c)
    (hk : render T [.h r h] = some k) (hs : c.processedTimeSuffix ≠ []) :
    tmIsProcessedTimeKey c k = false ∧ tmIsProcessedTimeKey c (k ++ c.processedTimeSuffix) = true := by
  rw [render_relCons T c r h hT] at hk
  cases hk
  have hk := heightKey_length (c.consensusStatePrefix ++ [slash]) r h
  rw [List.length_append (bs := [slash]), List.length_singleton] at hk
  have hlen : ¬ c.consensusStatePrefix.length + 1 + 16 + c.processedTimeSuffix.length = c.consensusStatePrefix.length + 1 + 16 :=
    Nat.ne_of_gt (Nat.lt_add_of_pos_right (List.length_pos_iff.mpr hs))
  have hsuf : ∀ x : Bytes, hasSuffix (x ++ c.processedTimeSuffix) c.processedTimeSuffix = true :=
    fun x => List.isSuffixOf_iff_suffix.mpr (List.suffix_append x _)
  simp only [tmIsProcessedTimeKey, List.length_append (bs := c.processedTimeSuffix), hk, hsuf, hlen, decide_true, decide_false,
    Bool.true_or, Bool.not_true, Bool.or_self, Bool.not_false, and_self]

/-- shape of the Tendermint iteration key: "<iterateConsensusStates>" ++ 8 ++ 8 (no separator) -/
def IterShape (T : Template) (c : Consts) : Prop :=
  T = { params := [.height], segs := [.lit c.iterateConsensusStatePrefix, .revBE 0, .heightBE 0] }

instance (T : Template) (c : Consts) : Decidable (IterShape T c) := by unfold IterShape; infer_instance

/-- Tendermint `IterateConsensusStateAscending` / `GetHeightFromIterationKey` returns the height the key was made for -/
theorem tm_iteration_key_readback (T : Template) (c : Consts) (k : Bytes) (r h : UInt64) (hT : IterShape T c)
    (hk : render T [.h r h] = some k) : tmHeightFromIterKey c k = .ok (r, h) := by
  rw [hT, render_heightKey] at hk
  cases hk
  unfold tmHeightFromIterKey
  rw [List.drop_left]
  simp only [List.length_append, be8_length, take_be8, drop_be8, take_be8_self, ofBE_be8, Nat.reduceAdd, Nat.reduceLT,
    if_false]

abbrev GC : Consts := HostKeys.consts

-- `[115, 101, 113, 117, 101, 110, 99, 101, 115]` is "sequences", the fixed segment of the four packet key families
theorem commitmentKey_shape : PacketShape HostKeys.packetCommitmentKey GC.commitmentPrefix [115, 101, 113, 117, 101, 110, 99, 101, 115] := ⟨rfl, by decide +kernel⟩
theorem ackKey_shape : PacketShape HostKeys.packetAcknowledgementKey GC.ackPrefix [115, 101, 113, 117, 101, 110, 99, 101, 115] := ⟨rfl, by decide +kernel⟩
theorem receiptKey_shape : PacketShape HostKeys.packetReceiptKey GC.receiptPrefix [115, 101, 113, 117, 101, 110, 99, 101, 115] := ⟨rfl, by decide +kernel⟩
theorem relayerKey_shape : PacketShape HostKeys.packetRelayerKey GC.relayerPrefix [115, 101, 113, 117, 101, 110, 99, 101, 115] := ⟨rfl, by decide +kernel⟩
theorem nextSeqKey_shape : PairShape HostKeys.nextSequenceSendKey GC.nextSeqSendPrefix := ⟨rfl, by decide +kernel⟩
theorem consKey_shape : ConsShape HostKeys.fullConsensusStateKey GC := rfl
theorem clientKey_shape : ClientShape HostKeys.fullClientStateKey GC := rfl
theorem relConsKey_shape : RelConsShape HostKeys.consensusStateKey GC := rfl
theorem tmIterKey_shape : IterShape HostKeys.tm_iterationKey GC := rfl
theorem clientState_vs_cons_length : GC.clientState.length ≠ GC.consensusStatePrefix.length + 17 := by decide +kernel
theorem processedTimeSuffix_ne_nil : GC.processedTimeSuffix ≠ [] := by decide +kernel

/-- the iterated families of the single xibc store never overlap: no family prefix is a prefix of another -/
theorem family_prefixes_disjoint :
    let ps := [GC.clientStorePrefix, GC.commitmentPrefix, GC.ackPrefix, GC.receiptPrefix, GC.nextSeqSendPrefix]
    ∀ p ∈ ps, ∀ q ∈ ps, p ≠ q → hasPrefix q p = false := by decide +kernel

theorem srcChain_excludesSlash : Validate.srcChainValidator.excludesSlash = true := by decide +kernel
theorem dstChain_excludesSlash : Validate.dstChainValidator.excludesSlash = true := by decide +kernel
theorem clientId_excludesSlash : Validate.clientIdentifierValidator.excludesSlash = true := by decide +kernel

/-- the property as stated, on the generated commitment key and the generated validators: two valid
    (source, destination, sequence) triples with the same commitment key are equal -/
theorem commitment_key_injective_valid (a b a' b' k : Bytes) (n n' : UInt64)
    (ha : validName Validate.srcChainValidator a = true) (hb : validName Validate.dstChainValidator b = true)
    (ha' : validName Validate.srcChainValidator a' = true) (hb' : validName Validate.dstChainValidator b' = true)
    (hk : render HostKeys.packetCommitmentKey [.s a, .s b, .n n] = some k)
    (hk' : render HostKeys.packetCommitmentKey [.s a', .s b', .n n'] = some k) : (a, b, n) = (a', b', n') :=
  packet_key_injective _ _ _ a b a' b' k n n' commitmentKey_shape
    (validName_noSlash _ srcChain_excludesSlash a ha) (validName_noSlash _ dstChain_excludesSlash b hb)
    (validName_noSlash _ srcChain_excludesSlash a' ha') (validName_noSlash _ dstChain_excludesSlash b' hb') hk hk'

/-- … and every consensus-state key of a valid client name is read back at the height it was written for -/
theorem cons_key_parses_valid (name k : Bytes) (r h : UInt64)
    (hn : validName Validate.clientIdentifierValidator name = true)
    (hk : render HostKeys.fullConsensusStateKey [.s name, .h r h] = some k) : parseConsKey GC k = some (name, r, h) :=
  cons_key_parses _ GC name k r h consKey_shape (validName_noSlash _ clientId_excludesSlash name hn) hk

/-! ### non-vacuity -/
example : validName Validate.srcChainValidator [97, 46, 98, 95, 99] = true := by decide +kernel
example : (render HostKeys.fullConsensusStateKey [.s [97, 98, 99], .h 1 47]).isSome = true := by decide +kernel
example : parseConsKey GC ((render HostKeys.fullConsensusStateKey [.s [97, 98, 99], .h 1 47]).getD []) = some ([97, 98, 99], 1, 47) := by decide +kernel

end TM.C19
