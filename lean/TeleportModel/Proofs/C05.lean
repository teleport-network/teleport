import TeleportModel.Lemmas.Xibc
/-
C05 — acknowledgement lifecycle.

Statements are per store key (`acks/…`, `commitments/…`), which covers every message with the same triple.
Where a hash assumption is needed it is the explicit hypothesis `HashOk env` (sha256 output non-empty; the packet
commitment sha256 ∘ ABIPack is injective on the packets in play — collision-freeness); never an axiom.

The relay branches (docs/C05.md):
 * `AcknowledgePacket`'s `src ≠ self` branch calls SetPacketAcknowledgement without HasPacketAcknowledgement.
   It is dead: `ValidatePacket` forces `dst = self`, the commitment of such a packet would have to exist, and every
   stored commitment belongs to a packet with `src = self` (invariant `CommitsOwn`, established by the empty
   store and preserved by every message) — theorem `ack_relay_branch_dead`.
 * `RecvPacket`'s `dst ≠ self` branch needs `src = self`, i.e. a light client registered under the chain's own
   name (`recv_relay_branch_needs_self_client`). Before fix 3b1567f `HandleCreateClient` did not forbid that name; if such a client exists
   and accepts a proof, the branch overwrites the commitment of an own packet (`self_client_overwrites_commitment`,
   a closed witness on the model) — a governance foot-gun, not reachable while `self ∉ clients`.
-/
namespace TM.Xibc

structure HashOk (env : Env) : Prop where
  nonempty : ∀ b, env.sha256 b ≠ []
  inj : ∀ p q : Packet, env.sha256 (env.encodePacket p) = env.sha256 (env.encodePacket q) → p = q

/-- every stored commitment is the commitment of a packet sent by this chain, under that packet's key -/
def CommitsOwn (env : Env) (c : Chain) : Prop :=
  ∀ k v, c.commits.get k = some v → ∃ q : Packet, q.src = c.name ∧ k = commitKey q ∧ v = env.sha256 (env.encodePacket q)

theorem commitsOwn_init (env : Env) (name : Bytes) : CommitsOwn env (Chain.init name) := by
  intro k v h; simp [Chain.init, Tab.get] at h

theorem validatePacket_side {c : Chain} {p : Packet} (h : validatePacket c p = true) : p.dst = c.name ∨ p.src = c.name := by
  simp only [validatePacket, Bool.and_eq_true, Bool.not_eq_true', Bool.and_eq_false_iff, bne_eq_false_iff_eq] at h
  exact h.2

/-- the commitment key addressed by an acknowledgement message -/
def ackKeyOf (env : Env) : Msg → Option Bytes
  | .acknowledgement packet _ _ _ _ _ => some (commitKey (env.decodePacket packet).1)
  | _ => none

theorem ackKeyOf_eq_some {env : Env} {m : Msg} {k : Bytes} (h : ackKeyOf env m = some k) :
    ∃ pk ak pf ht s o, m = .acknowledgement pk ak pf ht s o ∧ commitKey (env.decodePacket pk).1 = k := by
  unfold ackKeyOf at h
  split at h
  · exact ⟨_, _, _, _, _, _, rfl, Option.some.inj h⟩
  · cases h

/-- how one delivery moves the commitment store -/
inductive CommitStep (env : Env) (c c' : Chain) (m : Msg) (r : Result) : Prop
  | same (h : c'.commits = c.commits)
  /-- by an accepted send, or by an accepted receive through the `dst ≠ self` branch (which takes a client named self) -/
  | created (q : Packet) (hr : r = .ok) (hsrc : q.src = c.name)
      (hm : (∃ ok, m = .sendPacket q ok) ∨
        (∃ packet proof ht signer cb, m = .recvPacket packet proof ht signer cb ∧ q = (env.decodePacket packet).1 ∧
          c.clients.has c.name = true))
      (h : c'.commits = c.commits.set (commitKey q) (env.sha256 (env.encodePacket q)))
  | acked (packet ack proof : Bytes) (ht : Height) (signer : Bytes) (o : EvmOut)
      (hm : m = .acknowledgement packet ack proof ht signer o) (hr : r = .ok)
      (hstored : (c.commits.get (commitKey (env.decodePacket packet).1)).getD [] =
          env.sha256 (env.encodePacket (env.decodePacket packet).1))
      (h : c'.commits = c.commits.del (commitKey (env.decodePacket packet).1))

theorem deliver_commitStep (env : Env) (c : Chain) (now : UInt64) (m : Msg) :
    CommitStep env c (deliver env c now m).1 m (deliver env c now m).2 := by
  cases deliver_step env c now m with
  | rejected hc _ => exact .same (by rw [hc])
  | recv packet proof h signer cb hm hr eff =>
    obtain ⟨relayer, _, ae⟩ := eff.relayer
    cases ae with
    | relayed hdst hc _ _ _ hcm =>
      -- the packet passes `ValidatePacket` with `dst ≠ self`, so `src = self`, and the client that verified is self's
      have hsrc := (validatePacket_side eff.valid).resolve_left hdst
      obtain ⟨cl, hcl, _⟩ := eff.verified
      exact .created _ hr hsrc (.inr ⟨packet, proof, h, signer, cb, hm, rfl, (Tab.has_eq_true_iff _ _).2 ⟨cl, hsrc ▸ hcl⟩⟩) hcm
    | acked _ _ _ _ _ hcm _ => exact .same hcm
  | ack packet ack proof h signer o hm hr eff => exact .acked packet ack proof h signer o hm hr eff.committed eff.commits
  | send p ok hm hr hsrc hc => exact .created p hr hsrc (.inl ⟨ok, hm⟩) (by rw [hc])
  | admin _ _ _ hc => exact .same (by rw [hc])

theorem commitsOwn_deliver (env : Env) (c : Chain) (now : UInt64) (m : Msg) (h : CommitsOwn env c) :
    CommitsOwn env (deliver env c now m).1 := by
  intro k v hk
  rw [deliver_name]
  cases deliver_commitStep env c now m with
  | same he => rw [he] at hk; exact h k v hk
  | created q _ hsrc _ he =>
    rw [he, Tab.get_set] at hk
    split at hk
    · rename_i hkk; injection hk with hk; exact ⟨q, hsrc, hkk, hk.symm⟩
    · exact h k v hk
  | acked packet ack proof ht signer o _ _ _ he =>
    rw [he, Tab.get_del] at hk
    split at hk
    · cases hk
    · exact h k v hk

theorem commitsOwn_run (env : Env) (c : Chain) (ms : List (UInt64 × Msg)) (h : CommitsOwn env c) :
    CommitsOwn env (run env c ms).1 :=
  run_invariant (CommitsOwn env) (commitsOwn_deliver env) c ms h

/-- **ack_relay_branch_dead**: under the commitment invariant and the hash assumption an
accepted acknowledgement always has `src = self`, so the unguarded SetPacketAcknowledgement of
`AcknowledgePacket` is never executed. -/
theorem ack_relay_branch_dead (env : Env) (hash : HashOk env) (c : Chain) (hinv : CommitsOwn env c) (now : UInt64)
    (packet ack proof : Bytes) (h : Height) (signer : Bytes) (o : EvmOut)
    (hok : (deliver env c now (.acknowledgement packet ack proof h signer o)).2 = .ok) :
    (env.decodePacket packet).1.src = c.name ∧
    (deliver env c now (.acknowledgement packet ack proof h signer o)).1.acks = c.acks ∧
    (deliver env c now (.acknowledgement packet ack proof h signer o)).1.ackWrites = c.ackWrites := by
  have eff := handle_ack_effect (deliver_ok_handle hok)
  -- the stored commitment is that of an own packet `q`, and hashes to the same as this packet: they are one packet
  have hsrc : (env.decodePacket packet).1.src = c.name := by
    obtain ⟨q, hq, _, hv⟩ := hinv _ _ (Tab.get_of_getD eff.committed (hash.nonempty _))
    rw [hash.inj _ _ hv]; exact hq
  obtain ⟨a, _, _, hc⟩ := eff.decoded
  rcases hc with ⟨_, h1, h2, _⟩ | ⟨hne, _⟩
  · exact ⟨hsrc, h1, h2⟩
  · exact absurd hsrc hne

/-- **recv_relay_branch_needs_self_client**: the `dst ≠ self` commitment write of `RecvPacket` needs a light client
registered under the chain's own name. -/
theorem recv_relay_branch_needs_self_client (env : Env) (c : Chain) (now : UInt64) (packet proof : Bytes) (h : Height)
    (signer : Bytes) (cb : Callback) (hself : c.clients.has c.name = false) :
    (deliver env c now (.recvPacket packet proof h signer cb)).1.commits = c.commits ∧
    ((deliver env c now (.recvPacket packet proof h signer cb)).2 = .ok → (env.decodePacket packet).1.dst = c.name) := by
  cases deliver_commitStep env c now (.recvPacket packet proof h signer cb) with
  | same he =>
    refine ⟨he, fun hok => ?_⟩
    have eff := handle_recv_effect (deliver_ok_handle hok)
    rcases validatePacket_side eff.valid with h1 | h1
    · exact h1
    · obtain ⟨cl, hcl, _⟩ := eff.verified
      rw [h1, (Tab.has_eq_false_iff _ _).1 hself] at hcl; cases hcl
  | created q _ _ hm _ =>
    rcases hm with ⟨ok, hm⟩ | ⟨_, _, _, _, _, _, _, hs⟩
    · cases hm
    · rw [hs] at hself; cases hself
  | acked _ _ _ _ _ _ hm _ _ _ => cases hm

/-- one delivery keeps a stored acknowledgement: an accepted receive writes a key that was absent, and the relay
branch of an accepted acknowledgement, which writes unguarded, is dead under the invariant -/
theorem deliver_ack_kept (env : Env) (hash : HashOk env) (c : Chain) (hinv : CommitsOwn env c) (now : UInt64) (m : Msg)
    (k a : Bytes) (hk : c.acks.get k = some a) : (deliver env c now m).1.acks.get k = some a := by
  cases deliver_step env c now m with
  | rejected hc _ => rw [hc]; exact hk
  | recv packet proof h signer cb _ _ eff =>
    obtain ⟨relayer, _, ae⟩ := eff.relayer
    cases ae with
    | relayed _ _ hacks _ _ _ => rw [hacks]; exact hk
    | acked ackBz _ hfresh hacks _ _ _ =>
      have hne : k ≠ ackKey (env.decodePacket packet).1 := fun e => by
        rw [e, (Tab.has_eq_false_iff _ _).1 hfresh] at hk; cases hk
      rw [hacks, Tab.get_set, if_neg hne]; exact hk
  | ack packet ack proof h signer o hm hr eff =>
    subst hm
    rw [(ack_relay_branch_dead env hash c hinv now packet ack proof h signer o hr).2.1]; exact hk
  | send _ _ _ _ _ hc => rw [hc]; exact hk
  | admin _ _ _ hc => rw [hc]; exact hk

/-- **acks_never_change**: a stored acknowledgement is never overwritten or removed, by any history. -/
theorem acks_never_change (env : Env) (hash : HashOk env) (c : Chain) (hinv : CommitsOwn env c)
    (ms : List (UInt64 × Msg)) (k a : Bytes) (hk : c.acks.get k = some a) :
    (run env c ms).1.acks.get k = some a :=
  (run_invariant (env := env) (fun c => CommitsOwn env c ∧ c.acks.get k = some a)
    (fun c now m hc => ⟨commitsOwn_deliver env c now m hc.1, deliver_ack_kept env hash c hc.1 now m k a hc.2⟩)
    c ms ⟨hinv, hk⟩).2

/-- **recv_writes_exactly_one_ack**: an accepted receive of a packet addressed to this chain found no
acknowledgement under the packet's ack key, and stores there the hash of exactly the acknowledgement built from
the callback outcome (the error acknowledgement with code 1 if the callback failed), the relayer address registered
by the signer for the source chain and the packet's fee option; WriteAcknowledgement ran exactly once and no other
ack key moved. -/
theorem recv_writes_exactly_one_ack (env : Env) (c : Chain) (now : UInt64) (packet proof : Bytes) (h : Height)
    (signer : Bytes) (cb : Callback)
    (hok : (deliver env c now (.recvPacket packet proof h signer cb)).2 = .ok)
    (hdst : (env.decodePacket packet).1.dst = c.name) :
    ∃ relayer ackBz,
      relayerOnOtherChain c (env.decodePacket packet).1.src signer = .found relayer ∧
      ackOfCallback env cb relayer (env.decodePacket packet).1.feeOption = some ackBz ∧
      c.acks.get (ackKey (env.decodePacket packet).1) = none ∧
      (deliver env c now (.recvPacket packet proof h signer cb)).1.acks.get (ackKey (env.decodePacket packet).1)
        = some (env.sha256 ackBz) ∧
      (∀ k, k ≠ ackKey (env.decodePacket packet).1 →
        (deliver env c now (.recvPacket packet proof h signer cb)).1.acks.get k = c.acks.get k) ∧
      (deliver env c now (.recvPacket packet proof h signer cb)).1.ackWrites =
        ackKey (env.decodePacket packet).1 :: c.ackWrites := by
  have eff := handle_recv_effect (deliver_ok_handle hok)
  obtain ⟨relayer, hrel, ae⟩ := eff.relayer
  cases ae with
  | relayed hne _ _ _ _ _ => exact absurd hdst hne
  | acked ackBz _ hfresh hacks hw _ hwhich =>
    rcases hwhich with ⟨_, hcb, _⟩ | ⟨hne, _⟩
    · refine ⟨relayer, ackBz, hrel, hcb, (Tab.has_eq_false_iff _ _).1 hfresh, ?_, ?_, hw⟩
      · rw [hacks, Tab.get_set, if_pos rfl]
      · intro k hk; rw [hacks, Tab.get_set, if_neg hk]
    · exact absurd hdst hne

/-- failing callback ⇒ the stored acknowledgement is the error acknowledgement (code 1) -/
theorem recv_failed_callback_error_ack (env : Env) (relayer : Bytes) (fee : UInt64) :
    ackOfCallback env .fail relayer fee = some (env.encodeAck ⟨1, [], errMsgCallback, relayer, fee⟩) := rfl

/-- **commitment_removed_only_by_its_ack**: if a commitment present before a delivery is absent after it, the
message is an accepted acknowledgement whose packet has exactly this commitment key and hashes to exactly the
stored commitment. -/
theorem commitment_removed_only_by_its_ack (env : Env) (c : Chain) (now : UInt64) (m : Msg) (k v : Bytes)
    (hbefore : c.commits.get k = some v) (hafter : (deliver env c now m).1.commits.get k = none) :
    ∃ packet ack proof h signer o, m = .acknowledgement packet ack proof h signer o ∧
      (deliver env c now m).2 = .ok ∧ k = commitKey (env.decodePacket packet).1 ∧
      v = env.sha256 (env.encodePacket (env.decodePacket packet).1) := by
  cases deliver_commitStep env c now m with
  | same he => rw [he, hbefore] at hafter; cases hafter
  | created q _ _ _ he =>
    rw [he, Tab.get_set] at hafter
    split at hafter
    · cases hafter
    · rw [hbefore] at hafter; cases hafter
  | acked packet ack proof ht signer o hm hr hstored he =>
    rw [he, Tab.get_del] at hafter
    split at hafter
    · rename_i hkk
      rw [← hkk, hbefore] at hstored
      exact ⟨packet, ack, proof, ht, signer, o, hm, hr, hkk, hstored⟩
    · rw [hbefore] at hafter; cases hafter

def acceptedAckOf (env : Env) (k : Bytes) (x : Result × (UInt64 × Msg)) : Bool :=
  decide (x.1 = .ok) && decide (ackKeyOf env x.2.2 = some k)

/-- a delivery that may (re)create the commitment under key `k`: an accepted send or an accepted receive of a packet
with this commitment key. Every such receive is flagged, also one addressed to this chain, which writes no commitment:
an over-approximation, so `createdCount … = 0` asks for more than is needed. -/
def createsCommit (env : Env) (k : Bytes) (x : Result × (UInt64 × Msg)) : Bool :=
  decide (x.1 = .ok) &&
  (match x.2.2 with
   | .sendPacket p _ => decide (commitKey p = k)
   | .recvPacket packet _ _ _ _ => decide (commitKey (env.decodePacket packet).1 = k)
   | _ => false)

def createdCount (env : Env) (k : Bytes) (c : Chain) (ms : List (UInt64 × Msg)) : Nat :=
  (((run env c ms).2.zip ms).filter (createsCommit env k)).length

theorem ack_accept_consumes {env : Env} (hash : HashOk env) {c : Chain} {now : UInt64} {m : Msg} {k : Bytes}
    (hok : (deliver env c now m).2 = .ok) (hk : ackKeyOf env m = some k) :
    c.commits.has k = true ∧ (deliver env c now m).1.commits.has k = false := by
  obtain ⟨pk, ak, pf, ht, s, o, rfl, rfl⟩ := ackKeyOf_eq_some hk
  have eff := handle_ack_effect (deliver_ok_handle hok)
  refine ⟨(Tab.has_eq_true_iff _ _).2 ⟨_, Tab.get_of_getD eff.committed (hash.nonempty _)⟩, ?_⟩
  rw [eff.commits, Tab.has_del, decide_eq_true rfl]; rfl

theorem no_create_stays_absent {env : Env} {c : Chain} {now : UInt64} {m : Msg} {k : Bytes}
    (hnc : createsCommit env k ((deliver env c now m).2, (now, m)) = false)
    (habs : c.commits.has k = false) : (deliver env c now m).1.commits.has k = false := by
  cases deliver_commitStep env c now m with
  | same he => rw [he]; exact habs
  | created q hr _ hm he =>
    have hne : k ≠ commitKey q := by
      intro e
      rcases hm with ⟨ok, rfl⟩ | ⟨packet, proof, ht, signer, cb, rfl, rfl, _⟩ <;> simp [createsCommit, hr, e] at hnc
    rw [he, Tab.has_set, habs, Bool.or_false, decide_eq_false_iff_not]; exact hne
  | acked packet ack proof ht signer o _ _ _ he => rw [he, Tab.has_del, habs, Bool.and_false]

/-- The potential "1 while the commitment of `k` is present" pays for every accepted acknowledgement of `k`, and only a
delivery that creates the commitment refills it. -/
theorem deliver_acked (env : Env) (hash : HashOk env) (k : Bytes) (c : Chain) (now : UInt64) (m : Msg) :
    (acceptedAckOf env k ((deliver env c now m).2, (now, m))).toNat + ((deliver env c now m).1.commits.has k).toNat ≤
      (c.commits.has k).toNat + (createsCommit env k ((deliver env c now m).2, (now, m))).toNat := by
  cases hacc : acceptedAckOf env k ((deliver env c now m).2, (now, m)) with
  | true =>
    simp only [acceptedAckOf, Bool.and_eq_true, decide_eq_true_eq] at hacc
    obtain ⟨hb, ha⟩ := ack_accept_consumes hash hacc.1 hacc.2
    rw [hb, ha]
    exact Nat.le_add_right 1 _
  | false =>
    rw [Bool.toNat_false, Nat.zero_add]
    cases hcr : createsCommit env k ((deliver env c now m).2, (now, m)) with
    | true => exact Nat.le_trans (Bool.toNat_le _) (Nat.le_add_left 1 _)
    | false =>
      cases hb : c.commits.has k with
      | true => exact Bool.toNat_le _
      | false => rw [no_create_stays_absent hcr hb]; exact Nat.le_refl 0

theorem ackedCount_bound (env : Env) (hash : HashOk env) (k : Bytes) (c : Chain) (ms : List (UInt64 × Msg)) :
    (((run env c ms).2.zip ms).filter (acceptedAckOf env k)).length ≤ (c.commits.has k).toNat + createdCount env k c ms :=
  Nat.le_trans (Nat.le_add_right _ _)
    (run_potential (acceptedAckOf env k) (createsCommit env k) (fun c => (c.commits.has k).toNat)
      (deliver_acked env hash k) c ms)

/-- **ack_processed_at_most_once**: in any history in which the commitment of `k` is not created again (no accepted
send or receive of a packet with this commitment key: a hypothesis; `sendPacket` admits only `seq = nextSequenceSend`, but
that the counter never comes back is proved for the send model of C04, not for this one), at most
one acknowledgement of `k` is accepted; none if the commitment is absent at the start. -/
theorem ack_processed_at_most_once (env : Env) (hash : HashOk env) (c : Chain) (ms : List (UInt64 × Msg)) (k : Bytes)
    (hnew : (((run env c ms).2.zip ms).filter (createsCommit env k)).length = 0) :
    (((run env c ms).2.zip ms).filter (acceptedAckOf env k)).length ≤ 1 ∧
    (c.commits.has k = false → (((run env c ms).2.zip ms).filter (acceptedAckOf env k)).length = 0) := by
  have := ackedCount_bound env hash k c ms
  rw [createdCount, hnew, Nat.add_zero] at this
  refine ⟨Nat.le_trans this (Bool.toNat_le _), fun hk => ?_⟩
  rw [hk] at this
  exact Nat.le_zero.1 this

/-- an acknowledgement whose commitment is gone is rejected and changes nothing (duplicates, acks before the send,
acks for packets never sent) -/
theorem ack_rejected_without_commitment (env : Env) (hash : HashOk env) (c : Chain) (now : UInt64) (m : Msg) (k : Bytes)
    (hk : ackKeyOf env m = some k) (habs : c.commits.has k = false) : deliver env c now m = (c, .err) := by
  refine deliver_rejected fun hok => ?_
  rw [(ack_accept_consumes hash hok hk).1] at habs; cases habs

/-- the contract calls of an accepted acknowledgement: `setAckStatus`, `sendPacketFeeToRelayer`,
`OnAcknowledgePacket` are each invoked exactly once, in this order, with status 1 for code 0 and 2 otherwise -/
theorem ack_effects_once (env : Env) (hash : HashOk env) (c : Chain) (hinv : CommitsOwn env c) (now : UInt64)
    (packet ack proof : Bytes) (h : Height) (signer : Bytes) (o : EvmOut)
    (hok : (deliver env c now (.acknowledgement packet ack proof h signer o)).2 = .ok) :
    ∃ a relayer, env.decodeAck ack = some a ∧
      (deliver env c now (.acknowledgement packet ack proof h signer o)).1.evm =
        ackEvents (env.decodePacket packet).1 a relayer ++ c.evm := by
  have eff := handle_ack_effect (deliver_ok_handle hok)
  have hsrc := (ack_relay_branch_dead env hash c hinv now packet ack proof h signer o hok).1
  obtain ⟨a, ha, _, hc⟩ := eff.decoded
  rcases hc with ⟨_, _, _, relayer, _, _, _, hevm⟩ | ⟨hne, _⟩
  · exact ⟨a, relayer, ha, hevm⟩
  · exact absurd hsrc hne

/-- number of `OnAcknowledgePacket` calls logged for commitment key `k` -/
def onAckCount (k : Bytes) (c : Chain) : Nat := c.evm.count (.onAck k)

/-- the `OnAcknowledgePacket` count of key `k` only grows inside accepted acknowledgements of `k` -/
theorem deliver_onAckCount (env : Env) (c : Chain) (now : UInt64) (m : Msg) (k : Bytes) :
    onAckCount k (deliver env c now m).1 = onAckCount k c ∨
    (onAckCount k (deliver env c now m).1 = onAckCount k c + 1 ∧ (deliver env c now m).2 = .ok ∧ ackKeyOf env m = some k) := by
  cases deliver_step env c now m with
  | rejected hc _ => left; rw [hc]
  | recv packet proof h signer cb _ _ eff =>
    left
    rcases eff.evm_cases with hevm | ⟨_, hevm⟩
    · simp only [onAckCount, hevm]
    · simp only [onAckCount, hevm, ne_eq, reduceCtorEq, not_false_eq_true, List.count_cons_of_ne]
  | ack packet ack proof h signer o hm hr eff =>
    subst hm
    rcases eff.evm_cases with hevm | ⟨a, relayer, hevm⟩
    · left; simp only [onAckCount, hevm]
    · simp only [onAckCount, hevm, ackEvents, List.cons_append, List.nil_append]
      by_cases hk : commitKey (env.decodePacket packet).1 = k
      · right; subst hk
        exact ⟨by simp only [List.count_cons_self, ne_eq, reduceCtorEq, not_false_eq_true, List.count_cons_of_ne], hr, rfl⟩
      · left
        simp only [ne_eq, Event.onAck.injEq, hk, reduceCtorEq, not_false_eq_true, List.count_cons_of_ne]
  | send _ _ _ _ _ hc => left; simp only [onAckCount, hc, ne_eq, reduceCtorEq, not_false_eq_true, List.count_cons_of_ne]
  | admin _ _ _ hc => left; rw [hc]; rfl

/-- over a history without re-creation of the commitment, `OnAcknowledgePacket` (and with it the status write and the
fee payment, which precede it in the same transaction) runs at most once for `k` -/
theorem onAck_at_most_once (env : Env) (hash : HashOk env) (c : Chain) (ms : List (UInt64 × Msg)) (k : Bytes)
    (hnew : createdCount env k c ms = 0) :
    onAckCount k (run env c ms).1 ≤ onAckCount k c + 1 := by
  have hgrow := run_potential (fun _ => false) (acceptedAckOf env k) (onAckCount k) (env := env) (by
    intro c now m
    rw [Bool.toNat_false, Nat.zero_add]
    rcases deliver_onAckCount env c now m k with he | ⟨he, hok, hkey⟩
    · rw [he]; exact Nat.le_add_right _ _
    · rw [he, acceptedAckOf, hok, hkey, decide_eq_true rfl, decide_eq_true rfl]; exact Nat.le_refl _) c ms
  have hb := ackedCount_bound env hash k c ms
  rw [hnew, Nat.add_zero] at hb
  rw [filter_never, List.length_nil, Nat.zero_add] at hgrow
  exact Nat.le_trans hgrow (Nat.add_le_add_left (Nat.le_trans hb (Bool.toNat_le _)) _)

/-- **update_takes_effect_all_kinds**: after an accepted `MsgUpdateClient` the client table holds the UPDATED client state,
for every client kind: a light client gains the consensus root at the header height (and its latest height moves up), a
TSS client's address is replaced by the one the update names — the keeper stores the new client state whether or not the
update yields a consensus state. Later verifications read that state. -/
theorem update_takes_effect_all_kinds (env : Env) (c : Chain) (now : UInt64) (chain : Bytes) (h : Height)
    (root signer : Bytes) (ok : Bool)
    (hok : (deliver env c now (.updateClient chain h root signer ok)).2 = .ok) :
    ∃ cl, c.clients.get chain = some cl ∧
      ((cl.kind = .tss ∧ signer = cl.tssAddr ∧
          (deliver env c now (.updateClient chain h root signer ok)).1.clients.get chain = some { cl with tssAddr := root }) ∨
       (cl.kind ≠ .tss ∧
          (deliver env c now (.updateClient chain h root signer ok)).1.clients.get chain =
            some { cl with latest := maxHeight cl.latest h, cons := cl.cons.set h root, processed := cl.processed.set h now })) := by
  obtain ⟨cl, cl', hcl, _, _, he, heff⟩ := updateClient_ok (deliver_ok_handle hok)
  have hget : (deliver env c now (.updateClient chain h root signer ok)).1.clients.get chain = some cl' := by
    rw [he, Tab.get_set, if_pos rfl]
  refine ⟨cl, hcl, ?_⟩
  rcases heff with ⟨hk, hs, rfl⟩ | ⟨hk, rfl⟩
  · exact Or.inl ⟨hk, hs, hget⟩
  · exact Or.inr ⟨hk, hget⟩

/-- after a TSS key rotation only the NEW address gets an acknowledgement through: an ack accepted in the state right
after the accepted update is signed by the address the update named (the retired address is refused unless it is the
same). -/
theorem ack_after_rotation_needs_new_signer (env : Env) (c : Chain) (now now2 : UInt64) (chain : Bytes) (h : Height)
    (newAddr signer : Bytes) (ok : Bool) (cl : Client) (hcl : c.clients.get chain = some cl) (hk : cl.kind = .tss)
    (hupd : (deliver env c now (.updateClient chain h newAddr signer ok)).2 = .ok)
    (pk ak pf : Bytes) (h2 : Height) (s : Bytes) (o : EvmOut) (hdst : (env.decodePacket pk).1.dst = chain)
    (hack : (deliver env (deliver env c now (.updateClient chain h newAddr signer ok)).1 now2
              (.acknowledgement pk ak pf h2 s o)).2 = .ok) :
    s = newAddr := by
  obtain ⟨cl', hcl', heff⟩ := update_takes_effect_all_kinds env c now chain h newAddr signer ok hupd
  rw [hcl] at hcl'; cases hcl'
  rcases heff with ⟨_, _, hnew⟩ | ⟨hne, _⟩
  · obtain ⟨cl2, hcl2, hv⟩ := (handle_ack_effect (deliver_ok_handle hack)).verified
    rw [hdst, hnew] at hcl2
    cases hcl2
    exact tss_verify_signer (cl := { cl with tssAddr := newAddr }) hk hv
  · exact absurd hk hne

/-! ### the self-client hazard (closed witness on the model) -/
section Witness
def wA : Packet := ⟨[2], [1], 1, [], [9], [], [], 0⟩      -- sent by chain [2] to chain [1]
def wB : Packet := ⟨[2], [1], 1, [], [8], [], [], 0⟩      -- same triple, other payload
def wEnv : Env where
  sha256 := fun b => 0 :: b
  decodePacket := fun b => if b = [0] then (wA, false) else (wB, false)
  encodePacket := fun p => p.transfer
  decodeAck := fun _ => none
  encodeAck := fun _ => [8]
  verify := fun _ _ _ _ _ _ => true
  bech32Valid := fun _ => true
def wClient : Client := ⟨.tm, ⟨0, 5⟩, [(⟨0, 5⟩, [3])], [(⟨0, 5⟩, 0)], 0, 0, []⟩
/-- chain [2] with a client for [1] and — the hazard — a client registered under its own name [2] -/
def wChain : Chain :=
  { Chain.init [2] with clients := [([1], wClient), ([2], wClient)], relayers := [⟨[4], [[2]], [[5]]⟩] }

/-- With a client under the chain's own name, a "receive" of a packet with `src = self` overwrites the commitment of
the packet this chain really sent (same key, other hash): the genuine acknowledgement can then never be accepted. -/
theorem self_client_overwrites_commitment :
    let c1 := (deliver wEnv wChain 1 (.sendPacket wA true)).1
    let c2 := (deliver wEnv c1 2 (.recvPacket [1] [] ⟨0, 5⟩ [4] (.ok 0 [] []))).1
    c1.commits.get (commitKey wA) = some [0, 9] ∧ c2.commits.get (commitKey wA) = some [0, 8] := by
  decide +kernel

/-- Only the `nonempty` half of `HashOk` is shown satisfiable, by `wEnv`, which does NOT satisfy `HashOk.inj` (its
`encodePacket` keeps nothing but `transfer`). No environment with `HashOk` is exhibited, and none in which an
acknowledgement is accepted (`decodeAck` is `none` in `wEnv`): the theorems with `hash : HashOk env` or an accepted
acknowledgement in their hypotheses have no witness in this file. -/
example : ∃ env : Env, (∀ b, env.sha256 b ≠ []) :=
  ⟨wEnv, fun b => by simp [wEnv]⟩
end Witness

end TM.Xibc
