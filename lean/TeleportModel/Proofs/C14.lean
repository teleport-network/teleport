import TeleportModel.Model.Determinism
/-
C14 — order-independence theorems. For every map iteration of /repo that feeds state, events or results, the
computation (modelled over the list of entries in iteration order) gives the same result for every permutation
of the entries — i.e. for every iteration order the Go runtime may choose.
-/
namespace TM.Determinism

theorem inj_of_nodup_map {α β : Type} (f : α → β) {l : List α} (nodup : (l.map f).Nodup) {a b : α}
    (ha : a ∈ l) (hb : b ∈ l) (hf : f a = f b) : a = b := by
  have pw : l.Pairwise (fun x y => f x ≠ f y) := List.pairwise_map.mp nodup
  exact List.Pairwise.forall_of_forall_of_flip (R := fun x y => f x = f y → x = y) (fun _ _ _ => rfl)
    (pw.imp (fun h e => absurd e h)) (pw.imp (fun h e => absurd e.symm h)) ha hb hf

/-! ### sorting makes the iteration order irrelevant

Both sorts of the model compare a numeric key (`leB`: the address itself, `attrLe`: the attribute key), so the facts are proved
once for `mergeSort` by an order `le a b = decide (f a ≤ f b)`. -/

theorem pairwise_mergeSort_key {α : Type} {f : α → Nat} {le : α → α → Bool} (hle : ∀ a b, le a b = decide (f a ≤ f b))
    (l : List α) : (l.mergeSort le).Pairwise (fun a b => f a ≤ f b) := by
  refine (List.pairwise_mergeSort ?_ ?_ l).imp (fun h => of_decide_eq_true (hle _ _ ▸ h))
  · intro a b c
    simp only [hle, decide_eq_true_eq]
    exact Nat.le_trans
  · intro a b
    simp only [hle, Bool.or_eq_true, decide_eq_true_eq]
    exact Nat.le_total _ _

/-- the sort returns THE arrangement that is ascending in the key, when the key separates the entries: every ascending
permutation of the input is the output -/
theorem mergeSort_key_eq {α : Type} {f : α → Nat} {le : α → α → Bool} (hle : ∀ a b, le a b = decide (f a ≤ f b))
    {l s : List α} (hp : l.Perm s) (hs : s.Pairwise (fun a b => f a ≤ f b))
    (inj : ∀ a ∈ l, ∀ b ∈ l, f a = f b → a = b) : l.mergeSort le = s := by
  have pm := List.mergeSort_perm l le
  refine List.Perm.eq_of_pairwise (fun a b ha hb hab hba => ?_) (pairwise_mergeSort_key hle l) hs (pm.trans hp)
  exact inj a (pm.mem_iff.mp ha) b (hp.mem_iff.mpr hb) (Nat.le_antisymm hab hba)

theorem mergeSort_key_perm {α : Type} {f : α → Nat} {le : α → α → Bool} (hle : ∀ a b, le a b = decide (f a ≤ f b))
    {l₁ l₂ : List α} (h : l₁.Perm l₂) (inj : ∀ a ∈ l₁, ∀ b ∈ l₁, f a = f b → a = b) :
    l₁.mergeSort le = l₂.mergeSort le :=
  mergeSort_key_eq hle (h.trans (List.mergeSort_perm l₂ le).symm) (pairwise_mergeSort_key hle l₂) inj

/-- sorting a permutation of the keys gives the same slice (`sort.Sort` over distinct or equal numbers) -/
theorem sortAddrs_perm {l₁ l₂ : List Addr} (h : l₁.Perm l₂) : sortAddrs l₁ = sortAddrs l₂ :=
  mergeSort_key_perm (f := id) (fun _ _ => rfl) h (fun _ _ _ _ e => e)

theorem sortAddrs_eq_of_sorted {l s : List Addr} (hp : l.Perm s) (hs : s.Pairwise (fun a b => a ≤ b)) : sortAddrs l = s :=
  mergeSort_key_eq (f := id) (fun _ _ => rfl) hp hs (fun _ _ _ _ e => e)

/-- bsc `(*snapshot).validators()`: the sorted validator slice does not depend on the map iteration order -/
theorem bsc_validators_perm {l₁ l₂ : List Addr} (h : l₁.Perm l₂) : validators l₁ = validators l₂ :=
  sortAddrs_perm h

/-- bsc `(*snapshot).inturn`: same in-turn answer (and same panic behaviour) for every iteration order -/
theorem bsc_inturn_perm {l₁ l₂ : List Addr} (h : l₁.Perm l₂) (number : Nat) (v : Addr) :
    inturn l₁ number v = inturn l₂ number v := by
  unfold inturn
  rw [bsc_validators_perm h]

/-- the sorted slice is a permutation of the keys: sorting loses / invents no validator -/
theorem validators_perm_keys (l : List Addr) : (validators l).Perm l := List.mergeSort_perm l leB

theorem firstHit_eq_any {α ε : Type} (hit : α → Bool) (e : ε) (l : List α) :
    firstHit hit e l = if l.any hit then some e else none := by
  fun_induction firstHit hit e l with
  | case1 => rfl
  | case2 a rest h => rw [List.any_cons, h, Bool.true_or, if_pos rfl]
  | case3 a rest h ih => rw [ih, List.any_cons, Bool.eq_false_iff.mpr h, Bool.false_or]

/-- a range loop that returns the same constant on every hit is insensitive to the iteration order -/
theorem firstHit_perm {α ε : Type} (hit : α → Bool) (e : ε) {l₁ l₂ : List α} (h : l₁.Perm l₂) :
    firstHit hit e l₁ = firstHit hit e l₂ := by
  rw [firstHit_eq_any, firstHit_eq_any, h.any_eq]

/-- bsc `verifySeal`: "signer among the recents and not shifted out" does not depend on the order in which
    `snap.Recents` is visited -/
theorem bsc_recents_perm {r₁ r₂ : List (Nat × Addr)} (h : r₁.Perm r₂) (signer : Addr) (shifted : Nat → Bool) :
    recentlySigned r₁ signer shifted = recentlySigned r₂ signer shifted :=
  firstHit_perm _ _ h

/-- maps used as sets (maccPerms, blocked addresses, allowed receivers, relayer chains): membership only -/
theorem membership_perm {l₁ l₂ : List Nat} (h : l₁.Perm l₂) (k : Nat) : member l₁ k = member l₂ k := by
  unfold member
  exact h.contains_eq

theorem hasDup_iff (l : List Nat) : hasDup l = true ↔ ¬ l.Nodup := by
  induction l with
  | nil => simp [hasDup]
  | cons a rest ih =>
    simp only [hasDup, Bool.or_eq_true, List.contains_iff_mem, List.nodup_cons, ih, Classical.not_and_iff_not_or_not,
      Classical.not_not]

/-- genesis validation duplicate checks (`seen` maps): the verdict depends on the multiset of identifiers only -/
theorem genesis_dup_perm {l₁ l₂ : List Nat} (h : l₁.Perm l₂) : hasDup l₁ = hasDup l₂ := by
  rw [Bool.eq_iff_iff, hasDup_iff, hasDup_iff, h.nodup_iff]

theorem insert_comm {κ ν : Type} [DecidableEq κ] (t : Table κ ν) (k₁ k₂ : κ) (v₁ v₂ : ν) (hne : k₁ ≠ k₂) :
    (t.insert k₁ v₁).insert k₂ v₂ = (t.insert k₂ v₂).insert k₁ v₁ := by
  funext k'
  simp only [Table.insert]
  by_cases h1 : k' = k₁
  · subst h1
    rw [if_neg hne, if_pos rfl, if_pos rfl]
  · rw [if_neg h1, if_neg h1]

/-- `for k, v := range m { m2[k] = v }` with distinct keys (they are the keys of a map): the table built does not
    depend on the iteration order -/
theorem table_build_perm {κ ν : Type} [DecidableEq κ] {l₁ l₂ : List (κ × ν)} (h : l₁.Perm l₂)
    (nodup : (l₁.map Prod.fst).Nodup) : buildTable l₁ = buildTable l₂ := by
  unfold buildTable
  refine h.foldl_eq' ?_ _
  intro x hx y hy z
  by_cases hxy : x = y
  · subst hxy; rfl
  · exact insert_comm z x.1 y.1 x.2 y.2 (fun hk => hxy (inj_of_nodup_map Prod.fst nodup hx hy hk))

theorem buildTable_mem {κ ν : Type} [DecidableEq κ] (l : List (κ × ν)) (k : κ) (v : ν)
    (nodup : (l.map Prod.fst).Nodup) (h : (k, v) ∈ l) : buildTable l k = some v := by
  -- the order is irrelevant (`table_build_perm`): take the one in which `(k, v)` is inserted last
  obtain ⟨s, t, rfl⟩ := List.append_of_mem h
  have p : (s ++ (k, v) :: t).Perm ((s ++ t) ++ [(k, v)]) := List.perm_middle.trans (List.perm_append_singleton _ _).symm
  rw [table_build_perm p nodup, buildTable, List.foldl_append]
  exact if_pos rfl

theorem filterMap_eq_map_of_some {α β : Type} {f : α → Option β} {g : α → β} {l : List α}
    (h : ∀ a ∈ l, f a = some (g a)) : l.filterMap f = l.map g := by
  induction l with
  | nil => rfl
  | cons a rest ih =>
    rw [List.filterMap_cons_some (h a List.mem_cons_self), List.map_cons,
      ih (fun x hx => h x (List.mem_cons_of_mem _ hx))]

/-- `adapter.Manager.InitGenesis`: every adapter is initialised exactly once, in the order of the arguments of
    `NewManager` — the map only serves as a lookup table -/
theorem adapter_manager_order {α : Type} (adapters : List (Nat × α)) (nodup : (adapters.map Prod.fst).Nodup) :
    managerInit adapters = adapters.map Prod.snd := by
  rw [managerInit, List.filterMap_map]
  exact filterMap_eq_map_of_some (fun e he => buildTable_mem adapters e.1 e.2 nodup he)

/-- distinct event ids give distinct keys in the handler table: an entry of the table carries the id of its event -/
theorem filterMap_key_nodup {η : Type} (known : Nat → Option η) (events : List (Nat × Nat))
    (nodup : (events.map Prod.snd).Nodup) :
    ((events.filterMap (fun e => (known e.1).map (fun h => (e.2, h)))).map Prod.fst).Nodup := by
  refine List.pairwise_map.2 ((List.pairwise_map.1 nodup).filterMap _ ?_)
  intro e e' hne b hb b' hb'
  obtain ⟨_, -, rfl⟩ := Option.map_eq_some_iff.mp hb
  obtain ⟨_, -, rfl⟩ := Option.map_eq_some_iff.mp hb'
  exact hne

/-- adapter `NewHookAdapter` (gov and staking): for event ids that are distinct, the handler table — and whether
    construction panics on an unknown event name — is the same for every iteration order of `parsed.Events` -/
theorem handler_table_perm {η : Type} (known : Nat → Option η) {e₁ e₂ : List (Nat × Nat)} (h : e₁.Perm e₂)
    (nodup : (e₁.map Prod.snd).Nodup) : hookTable known e₁ = hookTable known e₂ := by
  rw [hookTable, hookTable, h.any_eq,
    table_build_perm (h.filterMap _) (filterMap_key_nodup known e₁ nodup)]

/-- fix `C14-typed-event-order`: cosmos-sdk hands over the attributes of a typed event in map order (keys are the
    JSON field names: distinct); after sorting by key the emitted attribute list is the same for every order -/
theorem typed_event_sorted_perm {l₁ l₂ : List Attr} (h : l₁.Perm l₂) (nodup : (l₁.map Attr.key).Nodup) :
    sortAttrs l₁ = sortAttrs l₂ :=
  mergeSort_key_perm (f := Attr.key) (fun _ _ => rfl) h (fun _ ha _ hb => inj_of_nodup_map Attr.key nodup ha hb)

/-- without the sort the emitted list IS order dependent: two orders of the same two attributes differ -/
theorem typed_event_unsorted_differs :
    ∃ l₁ l₂ : List Attr, l₁.Perm l₂ ∧ l₁ ≠ l₂ :=
  ⟨[⟨1, 10⟩, ⟨2, 20⟩], [⟨2, 20⟩, ⟨1, 10⟩], List.Perm.swap _ _ _, by decide⟩

theorem sumAll_eq_sum (l : List Nat) : sumAll l = l.sum :=
  List.sum_eq_foldl_nat.symm

/-- `for _, v := range m { total += v }` over integers -/
theorem sum_perm {l₁ l₂ : List Nat} (h : l₁.Perm l₂) : sumAll l₁ = sumAll l₂ := by
  rw [sumAll_eq_sum, sumAll_eq_sum, h.sum_nat]

/-- congruence of `run`, true of every Lean function: it says nothing about the Go code. The content of C14 is in the
    permutation theorems, the site inventory and the twin replay. -/
theorem run_deterministic (s₁ s₂ : Replay) (o₁ o₂ : List Op) (hs : s₁ = s₂) (ho : o₁ = o₂) : run s₁ o₁ = run s₂ o₂ := by
  subst hs; subst ho; rfl

theorem stepOp_obs_diverged (s : Replay) (a b : String) :
    (stepOp s (.obs a b)).1.diverged = (s.diverged || decide (a ≠ b)) := by
  by_cases h : a = b <;> simp [stepOp, h]

/-- once diverged, always diverged; a history without disagreeing observation is never marked diverged -/
theorem run_diverged_iff (s : Replay) (ops : List Op) :
    (run s ops).1.diverged = (s.diverged || ops.any (fun o => match o with | .obs a b => decide (a ≠ b) | _ => false)) := by
  induction ops generalizing s with
  | nil => exact (Bool.or_false _).symm
  | cons o rest ih =>
    -- the flag after `o :: rest` is the flag after `rest` from the state `o` leaves; one step ors in "`o` disagrees"
    show (run (stepOp s o).1 rest).1.diverged = _
    rw [ih, List.any_cons, ← Bool.or_assoc]
    congr 1
    cases o with
    | obs a b => exact stepOp_obs_diverged s a b
    | fin na nb => exact (Bool.or_false _).symm
    | other => exact (Bool.or_false _).symm

/-! ### the probe models (tied to the real functions by harness/c14_probe_test.go) -/

theorem mem_dedupSorted (a : Nat) (l : List Nat) : a ∈ dedupSorted l ↔ a ∈ l := by
  fun_induction dedupSorted l <;> simp_all

/-- the snapshot's validator set contains exactly the addresses of the stored slice (duplicates collapse) -/
theorem mem_validatorSet (a : Addr) (l : List Addr) : a ∈ validatorSet l ↔ a ∈ l := by
  unfold validatorSet
  rw [mem_dedupSorted]
  exact (List.mergeSort_perm l leB).mem_iff

/-- the validator set (keys of the map, sorted) does not depend on the order of `ClientState.Validators` nor on the
    order in which the map hands out its keys -/
theorem validatorSet_perm {l₁ l₂ : List Addr} (h : l₁.Perm l₂) : validatorSet l₁ = validatorSet l₂ := by
  unfold validatorSet
  rw [sortAddrs_perm h]

/-- bsc `verifySeal`: the verdict on a header (unauthorized / recently signed / wrong difficulty / ok) is the same
    for every order of the validator slice and every visiting order of the recents map -/
theorem bsc_verdict_perm {v₁ v₂ : List Addr} {r₁ r₂ : List (Nat × Addr)} (hv : v₁.Perm v₂) (hr : r₁.Perm r₂)
    (number : Nat) (signer : Addr) (claim : Bool) :
    bscVerdict v₁ r₁ number signer claim = bscVerdict v₂ r₂ number signer claim := by
  unfold bscVerdict
  simp only [validatorSet_perm hv, hr.any_eq]

/-- relayer registry: a chain is authorised iff some address is found for it (first match), when the two slices
    have the same length (checked by `RegisterRelayerProposal.ValidateBasic`) -/
theorem relayerAddr_isSome (chains addrs : List String) (c : String) (hl : chains.length = addrs.length) :
    (relayerAddr chains addrs c).isSome = relayerAuth chains c := by
  induction chains generalizing addrs with
  | nil => cases addrs <;> rfl
  | cons ch cs ih =>
    cases addrs with
    | nil => exact absurd hl (Nat.succ_ne_zero _)
    | cons a as =>
      show (if ch = c then some a else relayerAddr cs as c).isSome = (ch :: cs).contains c
      rw [List.contains_cons]
      by_cases h : ch = c
      · subst h
        rw [if_pos rfl, beq_iff_eq.mpr (rfl : ch = ch), Bool.true_or]
        rfl
      · rw [if_neg h, ih as (Nat.succ.inj hl), beq_false_of_ne (Ne.symm h), Bool.false_or]
        rfl

/-- the eth future-block verdict is a function of the block time and the two header times only — no wall clock -/
theorem eth_time_future_iff (bt pt ht : Nat) : ethTimeVerdict bt pt ht = "future" ↔ ht > bt + 15 := by
  unfold ethTimeVerdict
  by_cases h : ht > bt + 15
  · simp [h]
  · by_cases h2 : ht ≤ pt <;> simp [h, h2]

example : validatorSet [5, 3, 5, 9, 3] = [3, 5, 9] := by
  rw [validatorSet, sortAddrs_eq_of_sorted (s := [3, 3, 5, 5, 9]) (by decide +kernel) (by decide +kernel)]
  rfl


/-! ### replicas: discarded executions do not influence later committed results

`Machine.discard`, `execVia`, `execWith` and `forkOf` are DEFINED to return the node unchanged / to ignore the call path / the
configuration / to copy the committed state. The four `rfl` theorems below restate these modelling decisions under the names
the inventory and the replica scenarios refer to; they prove nothing about the Go code. That the real node behaves like the
model is what the replica and twin runs of the harness check (harness/c14_replica_test.go, harness/c14_test.go). -/

/-- the model's discarded execution is the identity on the node (its committed state is all there is): by definition -/
theorem discard_frame {σ β ρ : Type} (m : Machine σ β ρ) (n : Node σ) (b : β) : m.discard n b = n := rfl

/-- in the model the call path is not an input of `step` (by definition of `execVia`). The obligation this names is on the
    implementation: no stack trace, caller, build path or executable name may flow into results — site kind
    `execution-context-capture`, twins / replicas reached through different call paths -/
theorem step_callpath_irrelevant {σ β ρ : Type} (m : Machine σ β ρ) (p q : List String) (n : Node σ) (b : β) :
    m.execVia p n b = m.execVia q n b := rfl

/-- by definition of `forkOf` -/
theorem fork_committed {σ : Type} (n : Node σ) : (Machine.forkOf n).committed = n.committed := rfl

/-- a block's outcome is a function of (committed state, block): nodes with equal committed state agree on the new
    committed state and on everything they report -/
theorem exec_congr {σ β ρ : Type} (m : Machine σ β ρ) (n₁ n₂ : Node σ) (b : β) (h : n₁.committed = n₂.committed) :
    (m.exec n₁ b).1.committed = (m.exec n₂ b).1.committed ∧ (m.exec n₁ b).2 = (m.exec n₂ b).2 := by
  unfold Machine.exec
  simp [h]

/-- `exec_congr` again: `execVia` is `exec` -/
theorem exec_via_congr {σ β ρ : Type} (m : Machine σ β ρ) (p q : List String) (n₁ n₂ : Node σ) (b : β)
    (h : n₁.committed = n₂.committed) :
    (m.execVia p n₁ b).1.committed = (m.execVia q n₂ b).1.committed ∧ (m.execVia p n₁ b).2 = (m.execVia q n₂ b).2 :=
  exec_congr m n₁ n₂ b h

/-- in the model the node's local configuration is not an input of `step` (by definition of `execWith`). The obligation this
    names is on the implementation: no value of AppOptions / viper / flags / server config may reach consensus code — site kind
    `node-local-config`, twins / replicas constructed with different configurations -/
theorem step_config_irrelevant {σ β ρ : Type} (m : Machine σ β ρ) (c₁ c₂ : List (String × String)) (n : Node σ) (b : β) :
    m.execWith c₁ n b = m.execWith c₂ n b := rfl

/-- `exec_congr` again: `execWith` is `exec` -/
theorem exec_with_congr {σ β ρ : Type} (m : Machine σ β ρ) (c₁ c₂ : List (String × String)) (n₁ n₂ : Node σ) (b : β)
    (h : n₁.committed = n₂.committed) :
    (m.execWith c₁ n₁ b).1.committed = (m.execWith c₂ n₂ b).1.committed ∧ (m.execWith c₁ n₁ b).2 = (m.execWith c₂ n₂ b).2 :=
  exec_congr m n₁ n₂ b h

theorem repStep_agree {σ β ρ : Type} (m : Machine σ β ρ) (p : Node σ × Node σ) (o : RepOp β)
    (h : p.1.committed = p.2.committed) :
    (repStep m p o).1.1.committed = (repStep m p o).1.2.committed ∧
    (∀ r, (repStep m p o).2 = some r → r.1 = r.2) := by
  cases o with
  | block b =>
    have := exec_congr m p.1 p.2 b h
    exact ⟨this.1, fun r hr => Option.some.inj hr ▸ this.2⟩
  | fork => exact ⟨rfl, fun _ hr => by cases hr⟩
  | discard₁ b => exact ⟨h, fun _ hr => by cases hr⟩
  | discard₂ b => exact ⟨h, fun _ hr => by cases hr⟩

/-- REPLICA THEOREM, for all histories: starting from equal committed state, after any sequence of blocks, forks and
    discarded executions on either node (CheckTx, Simulate, queries, dropped cache contexts, rolled-back transactions)
    the two nodes have equal committed state and reported equal results for EVERY block of the history -/
theorem replicas_agree {σ β ρ : Type} (m : Machine σ β ρ) (ops : List (RepOp β)) (p : Node σ × Node σ)
    (h : p.1.committed = p.2.committed) :
    (repRun m p ops).1.1.committed = (repRun m p ops).1.2.committed ∧ ∀ r ∈ (repRun m p ops).2, r.1 = r.2 := by
  induction ops generalizing p with
  | nil => exact ⟨h, fun _ hr => absurd hr List.not_mem_nil⟩
  | cons o rest ih =>
    have hs := repStep_agree m p o h
    have hr := ih (repStep m p o).1 hs.1
    refine ⟨hr.1, fun r hmem => ?_⟩
    simp only [repRun] at hmem
    cases hopt : (repStep m p o).2 with
    | none =>
      rw [hopt] at hmem
      exact hr.2 r hmem
    | some x =>
      rw [hopt] at hmem
      rcases List.mem_cons.mp hmem with rfl | h'
      · exact hs.2 r hopt
      · exact hr.2 r h'

/-- corollary in the shape of the harness scenario: fork, any discarded executions on node 1, then one block — equal results -/
theorem discarded_then_block_agree {σ β ρ : Type} (m : Machine σ β ρ) (n : Node σ) (ds : List β) (b : β) :
    ∀ r ∈ (repRun m (n, n) (RepOp.fork :: ds.map RepOp.discard₁ ++ [RepOp.block b])).2, r.1 = r.2 :=
  (replicas_agree m _ (n, n) rfl).2

/-- the hypothesis "step takes only (committed, block)" is what carries the theorem: with process-local memory that a
    discarded execution can change (the memo of the trial change `seeded/C14-4`) a polluted node and a fresh fork disagree on the next block -/
theorem memo_breaks_replicas :
    ∃ (n : MemoNode) (h : Nat), (memoDiscard n h).committed = n.committed ∧
      (memoExec (memoDiscard n h) h).2 ≠ (memoExec { committed := n.committed, memo := none } h).2 :=
  ⟨{ committed := 5, memo := none }, 7, rfl, by decide⟩

example : (repRun (⟨fun s b => (s + b, s * b)⟩ : Machine Nat Nat Nat) (⟨3⟩, ⟨3⟩)
    [.discard₁ 9, .fork, .block 2, .discard₂ 4, .block 5]).2 = [(6, 6), (25, 25)] := rfl

/-! ### non-vacuity -/

theorem validators_5_3_9 : validators [5, 3, 9] = [3, 5, 9] := sortAddrs_eq_of_sorted (by decide +kernel) (by decide +kernel)

example : validators [5, 3, 9] = [3, 5, 9] := validators_5_3_9
example : validators [9, 5, 3] = validators [5, 3, 9] := bsc_validators_perm (by decide +kernel)
example : inturn [5, 3, 9] 0 5 = some true := by
  rw [inturn, validators_5_3_9]
  rfl
example : inturn [] 0 5 = none := by
  have h : validators [] = [] := sortAddrs_eq_of_sorted (by decide +kernel) (by decide +kernel)
  simp [inturn, h]
example : recentlySigned [(7, 1), (8, 2)] 2 (fun s => decide (s > 5)) = some "ErrRecentlySigned" := rfl
example : recentlySigned [(7, 1), (8, 2)] 3 (fun s => decide (s > 5)) = none := rfl
example : hasDup [1, 2, 1] = true := rfl
example : sortAttrs [⟨2, 20⟩, ⟨1, 10⟩] = sortAttrs [⟨1, 10⟩, ⟨2, 20⟩] := typed_event_sorted_perm (List.Perm.swap _ _ _) (by decide)

end TM.Determinism
