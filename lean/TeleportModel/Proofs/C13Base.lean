import TeleportModel.Model.GenesisKv
import TeleportModel.Lemmas.Outcome
/-
C13 — lemmas about Model/GenesisKv.lean: the byte order and the key-ordered store (`get / set / del / setAll`, prefixes and
prefix iteration), then the big-endian, decimal and key-splitting encodings. `Lemmas.Outcome` is imported for its
`LawfulBEq UInt8` instance, which every `==` on byte strings below would otherwise search for afresh.
-/
namespace TM.GKv
open TM

theorem blt_cons_cons (x y : UInt8) (xs ys : Bytes) :
    blt (x :: xs) (y :: ys) = true ↔ x.toNat < y.toNat ∨ (x = y ∧ blt xs ys = true) := by
  rw [blt]
  by_cases h1 : x.toNat < y.toNat
  · simp [h1]
  · by_cases h2 : y.toNat < x.toNat
    · have : x ≠ y := by rintro rfl; exact h1 h2
      simp [h1, h2, this]
    · have : x = y := UInt8.toNat_inj.mp (Nat.le_antisymm (Nat.le_of_not_lt h2) (Nat.le_of_not_lt h1))
      subst this
      simp [h1]

theorem blt_irrefl (a : Bytes) : blt a a = false := by
  induction a with
  | nil => rfl
  | cons x xs ih => simp [blt, ih]

theorem blt_trans {a b c : Bytes} (h1 : blt a b = true) (h2 : blt b c = true) : blt a c = true := by
  induction a generalizing b c with
  | nil =>
    cases c with
    | nil => cases b <;> cases h2
    | cons z zs => rfl
  | cons x xs ih =>
    cases b with
    | nil => cases h1
    | cons y ys =>
      cases c with
      | nil => cases h2
      | cons z zs =>
        rw [blt_cons_cons] at h1 h2 ⊢
        rcases h1 with h1 | ⟨rfl, h1⟩
        · rcases h2 with h2 | ⟨rfl, _⟩
          · exact Or.inl (Nat.lt_trans h1 h2)
          · exact Or.inl h1
        · rcases h2 with h2 | ⟨rfl, h2⟩
          · exact Or.inl h2
          · exact Or.inr ⟨rfl, ih h1 h2⟩

theorem blt_asymm {a b : Bytes} : blt a b = true → blt b a = false := by
  intro h
  cases hb : blt b a with
  | false => rfl
  | true =>
    have := blt_trans h hb
    rw [blt_irrefl] at this
    cases this

theorem blt_trichotomy (a b : Bytes) : blt a b = true ∨ a = b ∨ blt b a = true := by
  induction a generalizing b with
  | nil => cases b with
    | nil => exact Or.inr (Or.inl rfl)
    | cons y ys => exact Or.inl rfl
  | cons x xs ih =>
    cases b with
    | nil => exact Or.inr (Or.inr rfl)
    | cons y ys =>
      rw [blt_cons_cons, blt_cons_cons]
      rcases Nat.lt_trichotomy x.toNat y.toNat with h | h | h
      · exact Or.inl (Or.inl h)
      · have := UInt8.toNat_inj.mp h
        subst this
        rcases ih ys with h | rfl | h
        · exact Or.inl (Or.inr ⟨rfl, h⟩)
        · exact Or.inr (Or.inl rfl)
        · exact Or.inr (Or.inr (Or.inr ⟨rfl, h⟩))
      · exact Or.inr (Or.inr (Or.inl h))

theorem blt_ne {a b : Bytes} (h : blt a b = true) : a ≠ b := by
  intro e; subst e; rw [blt_irrefl] at h; cases h

theorem sorted_cons {a : Bytes × Bytes} {r : Store} :
    Sorted (a :: r) ↔ (∀ b ∈ r, blt a.1 b.1 = true) ∧ Sorted r := by
  unfold Sorted; exact List.pairwise_cons

theorem sorted_nil : Sorted [] := List.Pairwise.nil

theorem sorted_tail {a : Bytes × Bytes} {r : Store} (h : Sorted (a :: r)) : Sorted r := (sorted_cons.mp h).2

theorem sortedB_iff (s : Store) : sortedB s = true ↔ Sorted s := by
  induction s with
  | nil => simp [sortedB, sorted_nil]
  | cons a r ih =>
    cases r with
    | nil => simp [sortedB, sorted_cons, sorted_nil]
    | cons b r' =>
      simp only [sortedB, Bool.and_eq_true, ih]
      constructor
      · intro ⟨h1, h2⟩
        refine sorted_cons.mpr ⟨?_, h2⟩
        intro c hc
        rcases List.mem_cons.mp hc with e | hc'
        · subst e; exact h1
        · exact blt_trans h1 ((sorted_cons.mp h2).1 c hc')
      · intro h
        have := sorted_cons.mp h
        exact ⟨this.1 b (List.mem_cons_self ..), this.2⟩

theorem sorted_filter {s : Store} (h : Sorted s) (g : Bytes × Bytes → Bool) : Sorted (s.filter g) :=
  List.Pairwise.filter _ h

theorem get_cons (k' v : Bytes) (r : Store) (k : Bytes) :
    get ((k', v) :: r) k = if k' = k then some v else get r k := rfl

theorem get_none_of_lt {r : Store} {k : Bytes} (h : ∀ b ∈ r, blt k b.1 = true) : get r k = none := by
  induction r with
  | nil => rfl
  | cons a r ih =>
    obtain ⟨k', v'⟩ := a
    rw [get_cons, if_neg (blt_ne (h _ (List.mem_cons_self ..))).symm]
    exact ih (fun b hb => h b (List.mem_cons_of_mem _ hb))

theorem get_some_mem {s : Store} {k v : Bytes} (h : get s k = some v) : (k, v) ∈ s := by
  induction s with
  | nil => cases h
  | cons a r ih =>
    obtain ⟨k', v'⟩ := a
    rw [get_cons] at h
    by_cases e : k' = k
    · rw [if_pos e] at h; cases h; subst e; exact List.mem_cons_self ..
    · rw [if_neg e] at h; exact List.mem_cons_of_mem _ (ih h)

theorem mem_iff_get {s : Store} (h : Sorted s) (k v : Bytes) : (k, v) ∈ s ↔ get s k = some v := by
  refine ⟨fun hm => ?_, get_some_mem⟩
  induction s with
  | nil => cases hm
  | cons a r ih =>
    obtain ⟨k', v'⟩ := a
    have hs := sorted_cons.mp h
    rw [get_cons]
    rcases List.mem_cons.mp hm with e | hm'
    · cases e; rw [if_pos rfl]
    · rw [if_neg (blt_ne (hs.1 _ hm'))]; exact ih hs.2 hm'

theorem mem_unique {s : Store} (h : Sorted s) {k v v' : Bytes} (h1 : (k, v) ∈ s) (h2 : (k, v') ∈ s) : v = v' := by
  have a := (mem_iff_get h k v).mp h1
  have b := (mem_iff_get h k v').mp h2
  rw [a] at b; injection b

theorem mem_set_self (s : Store) (k v : Bytes) : (k, v) ∈ set s k v := by
  induction s with
  | nil => exact List.mem_singleton.mpr rfl
  | cons a r ih =>
    obtain ⟨k0, v0⟩ := a
    rw [set]
    by_cases e : k0 = k
    · rw [if_pos e]; exact List.mem_cons_self ..
    · rw [if_neg e]
      by_cases hlt : blt k k0 = true
      · rw [if_pos hlt]; exact List.mem_cons_self ..
      · rw [if_neg hlt]; exact List.mem_cons_of_mem _ ih

theorem mem_set_sub {s : Store} {k v : Bytes} {kv : Bytes × Bytes} (h : kv ∈ set s k v) : kv = (k, v) ∨ kv ∈ s := by
  induction s with
  | nil => exact Or.inl (List.mem_singleton.mp h)
  | cons a r ih =>
    obtain ⟨k', v'⟩ := a
    rw [set] at h
    by_cases e : k' = k
    · rw [if_pos e] at h
      exact (List.mem_cons.mp h).imp_right (List.mem_cons_of_mem _)
    · rw [if_neg e] at h
      by_cases hlt : blt k k' = true
      · rw [if_pos hlt] at h
        exact List.mem_cons.mp h
      · rw [if_neg hlt] at h
        rcases List.mem_cons.mp h with e | h'
        · exact Or.inr (e ▸ List.mem_cons_self ..)
        · exact (ih h').imp_right (List.mem_cons_of_mem _)

theorem sorted_set {s : Store} (h : Sorted s) (k v : Bytes) : Sorted (set s k v) := by
  induction s with
  | nil => exact sorted_cons.mpr ⟨by simp, sorted_nil⟩
  | cons a r ih =>
    obtain ⟨k', v'⟩ := a
    have hs := sorted_cons.mp h
    rw [set]
    by_cases e : k' = k
    · subst e; rw [if_pos rfl]; exact sorted_cons.mpr hs
    · rw [if_neg e]
      by_cases hlt : blt k k' = true
      · rw [if_pos hlt]
        refine sorted_cons.mpr ⟨fun b hb => ?_, h⟩
        rcases List.mem_cons.mp hb with e | hb'
        · subst e; exact hlt
        · exact blt_trans hlt (hs.1 b hb')
      · rw [if_neg hlt]
        -- `k` is neither equal to nor below the head, so it is above it and goes into the tail
        have hgt : blt k' k = true := by
          rcases blt_trichotomy k' k with h1 | h1 | h1
          · exact h1
          · exact absurd h1 e
          · exact absurd h1 hlt
        refine sorted_cons.mpr ⟨fun b hb => ?_, ih hs.2⟩
        rcases mem_set_sub hb with e | hb'
        · subst e; exact hgt
        · exact hs.1 b hb'

theorem get_set {s : Store} (h : Sorted s) (k v k' : Bytes) :
    get (set s k v) k' = if k = k' then some v else get s k' := by
  induction s with
  | nil => rfl
  | cons a r ih =>
    obtain ⟨k0, v0⟩ := a
    rw [set, get_cons]
    by_cases e : k0 = k
    · subst e
      rw [if_pos rfl, get_cons]
      by_cases e' : k0 = k'
      · rw [if_pos e', if_pos e']
      · rw [if_neg e', if_neg e', if_neg e']
    · rw [if_neg e]
      by_cases hlt : blt k k0 = true
      · rw [if_pos hlt]; rfl
      · rw [if_neg hlt, get_cons, ih (sorted_tail h)]
        by_cases e' : k0 = k'
        · subst e'; rw [if_pos rfl, if_pos rfl, if_neg (Ne.symm e)]
        · rw [if_neg e', if_neg e']

theorem mem_del_sub {s : Store} {k : Bytes} {b : Bytes × Bytes} (h : b ∈ del s k) : b ∈ s := by
  induction s with
  | nil => exact h
  | cons a r ih =>
    obtain ⟨k0, v0⟩ := a
    rw [del] at h
    by_cases e : k0 = k
    · rw [if_pos e] at h
      exact List.mem_cons_of_mem _ h
    · rw [if_neg e] at h
      rcases List.mem_cons.mp h with e | h'
      · exact e ▸ List.mem_cons_self ..
      · exact List.mem_cons_of_mem _ (ih h')

theorem sorted_del {s : Store} (h : Sorted s) (k : Bytes) : Sorted (del s k) := by
  induction s with
  | nil => exact sorted_nil
  | cons a r ih =>
    obtain ⟨k0, v0⟩ := a
    have hs := sorted_cons.mp h
    rw [del]
    by_cases e : k0 = k
    · rw [if_pos e]; exact hs.2
    · rw [if_neg e]; exact sorted_cons.mpr ⟨fun b hb => hs.1 b (mem_del_sub hb), ih hs.2⟩

theorem get_del {s : Store} (h : Sorted s) (k k' : Bytes) :
    get (del s k) k' = if k = k' then none else get s k' := by
  induction s with
  | nil => exact (ite_self _).symm
  | cons a r ih =>
    obtain ⟨k0, v0⟩ := a
    have hs := sorted_cons.mp h
    rw [del, get_cons]
    by_cases e : k0 = k
    · subst e
      rw [if_pos rfl]
      by_cases e' : k0 = k'
      · subst e'; rw [if_pos rfl]; exact get_none_of_lt hs.1
      · rw [if_neg e', if_neg e']
    · rw [if_neg e, get_cons, ih hs.2]
      by_cases e' : k0 = k'
      · subst e'; rw [if_pos rfl, if_pos rfl, if_neg (Ne.symm e)]
      · rw [if_neg e', if_neg e']

theorem get_filter (s : Store) (g : Bytes → Bool) (k : Bytes) :
    get (s.filter (fun kv => g kv.1)) k = if g k = true then get s k else none := by
  induction s with
  | nil => exact (ite_self _).symm
  | cons a r ih =>
    obtain ⟨k0, v0⟩ := a
    rw [List.filter_cons, get_cons]
    by_cases e : k0 = k
    · subst e
      cases hg : g k0
      · rw [if_neg Bool.false_ne_true, ih, hg]; rfl
      · rw [if_pos rfl, get_cons, if_pos rfl, if_pos rfl, if_pos rfl]
    · rw [if_neg e]
      split
      · rw [get_cons, if_neg e, ih]
      · exact ih

/-- sorted stores with the same entries are equal: without duplicates they are permutations of each other, and a strict
order admits one sorted arrangement -/
theorem sorted_ext {s t : Store} (hs : Sorted s) (ht : Sorted t) (h1 : ∀ kv ∈ s, kv ∈ t) (h2 : ∀ kv ∈ t, kv ∈ s) :
    s = t := by
  have nodup : ∀ {u : Store}, Sorted u → u.Nodup := fun h =>
    List.Pairwise.imp (fun hlt e => by rw [e, blt_irrefl] at hlt; cases hlt) h
  refine List.Perm.eq_of_pairwise (fun a b _ _ hab hba => ?_) hs ht
    ((List.perm_ext_iff_of_nodup (nodup hs) (nodup ht)).mpr fun kv => ⟨h1 kv, h2 kv⟩)
  rw [blt_asymm hab] at hba
  cases hba

theorem sorted_setAll {s : Store} (h : Sorted s) (l : List (Bytes × Bytes)) : Sorted (setAll s l) := by
  induction l generalizing s with
  | nil => exact h
  | cons a l ih => exact ih (sorted_set h a.1 a.2)

theorem setAll_append (s : Store) (l1 l2 : List (Bytes × Bytes)) : setAll s (l1 ++ l2) = setAll (setAll s l1) l2 := by
  simp [setAll, List.foldl_append]

theorem mem_setAll_sub {s : Store} {l : List (Bytes × Bytes)} {kv : Bytes × Bytes} (h : kv ∈ setAll s l) :
    kv ∈ l ∨ kv ∈ s := by
  induction l generalizing s with
  | nil => exact Or.inr h
  | cons a l ih =>
    rcases ih h with h' | h'
    · exact Or.inl (List.mem_cons_of_mem _ h')
    · exact (mem_set_sub h').imp (fun e => by rw [e]; exact List.mem_cons_self ..) id

theorem get_setAll_some {s : Store} (hs : Sorted s) (l : List (Bytes × Bytes)) {k v : Bytes}
    (h : get (setAll s l) k = some v) : (k, v) ∈ l ∨ get s k = some v :=
  (mem_setAll_sub (get_some_mem h)).imp_right (mem_iff_get hs k v).mp

theorem get_setAll_keep {s : Store} (hs : Sorted s) {k v : Bytes} (hg : get s k = some v) (l : List (Bytes × Bytes))
    (hu : ∀ kv ∈ l, kv.1 = k → kv.2 = v) : get (setAll s l) k = some v := by
  induction l generalizing s with
  | nil => exact hg
  | cons a l ih =>
    refine ih (sorted_set hs a.1 a.2) ?_ (fun kv hkv => hu kv (List.mem_cons_of_mem _ hkv))
    rw [get_set hs]
    split
    · next e => rw [hu a (List.mem_cons_self ..) e]
    · exact hg

theorem get_setAll_mem {s : Store} (hs : Sorted s) (l : List (Bytes × Bytes)) {k v : Bytes}
    (hm : (k, v) ∈ l) (hu : ∀ kv ∈ l, kv.1 = k → kv.2 = v) : get (setAll s l) k = some v := by
  induction l generalizing s with
  | nil => cases hm
  | cons a l ih =>
    have hu' := fun kv hkv => hu kv (List.mem_cons_of_mem _ hkv)
    rcases List.mem_cons.mp hm with e | hm'
    · subst e
      exact get_setAll_keep (sorted_set hs k v) (by rw [get_set hs, if_pos rfl]) l hu'
    · exact ih (sorted_set hs a.1 a.2) hm' hu'

theorem writes_agree {s : Store} (hs : Sorted s) {l : List (Bytes × Bytes)} (h1 : ∀ kv, kv ∈ l → kv ∈ s)
    {kv : Bytes × Bytes} (h : kv ∈ s) : ∀ kv' ∈ l, kv'.1 = kv.1 → kv'.2 = kv.2 := by
  rintro ⟨k', v'⟩ hkv' rfl
  exact mem_unique hs (h1 _ hkv') h

theorem setAll_absorb {s : Store} (hs : Sorted s) (l : List (Bytes × Bytes)) (h1 : ∀ kv, kv ∈ l → kv ∈ s) :
    setAll s l = s :=
  sorted_ext (sorted_setAll hs l) hs (fun kv h => (mem_setAll_sub h).elim (h1 kv) id)
    (fun _ h => get_some_mem (get_setAll_keep hs ((mem_iff_get hs _ _).mp h) l (writes_agree hs h1 h)))

/-- the key lemma of the genesis round trip: writing (in ANY order, with repetitions) exactly the entries of a
sorted store into the empty store rebuilds it -/
theorem setAll_nil_eq {s : Store} (hs : Sorted s) (l : List (Bytes × Bytes))
    (h1 : ∀ kv, kv ∈ l → kv ∈ s) (h2 : ∀ kv, kv ∈ s → kv ∈ l) : setAll [] l = s :=
  sorted_ext (sorted_setAll sorted_nil l) hs (fun kv h => (mem_setAll_sub h).elim (h1 kv) (absurd · List.not_mem_nil))
    (fun kv h => get_some_mem (get_setAll_mem sorted_nil l (h2 kv h) (writes_agree hs h1 h)))

theorem isPrefixOf_iff (p k : Bytes) : p.isPrefixOf k = true ↔ ∃ r, k = p ++ r := by
  rw [List.isPrefixOf_iff_prefix]
  exact ⟨fun ⟨r, e⟩ => ⟨r, e.symm⟩, fun ⟨r, e⟩ => ⟨r, e.symm⟩⟩

theorem isPrefixOf_append (p r : Bytes) : p.isPrefixOf (p ++ r) = true := (isPrefixOf_iff p _).mpr ⟨r, rfl⟩

theorem isPrefixOf_drop {p k : Bytes} (h : p.isPrefixOf k = true) : p ++ k.drop p.length = k :=
  List.prefix_iff_eq_append.mp (List.isPrefixOf_iff_prefix.mp h)

theorem isPrefixOf_trans {p q k : Bytes} (h1 : p.isPrefixOf q = true) (h2 : q.isPrefixOf k = true) : p.isPrefixOf k = true :=
  List.isPrefixOf_iff_prefix.mpr ((List.isPrefixOf_iff_prefix.mp h1).trans (List.isPrefixOf_iff_prefix.mp h2))

/-- two prefixes of one key are comparable, so two incomparable ones do not both fit it -/
theorem isPrefixOf_eq_false {p k : Bytes} (q : Bytes) (hp : p.isPrefixOf k = true) (h1 : p.isPrefixOf q = false)
    (h2 : q.isPrefixOf p = false) : q.isPrefixOf k = false := by
  cases hq : q.isPrefixOf k with
  | false => rfl
  | true =>
    rcases List.prefix_or_prefix_of_prefix (List.isPrefixOf_iff_prefix.mp hp) (List.isPrefixOf_iff_prefix.mp hq) with h | h
    · rw [List.isPrefixOf_iff_prefix.mpr h] at h1; cases h1
    · rw [List.isPrefixOf_iff_prefix.mpr h] at h2; cases h2

theorem ne_of_isPrefixOf {p k : Bytes} (k' : Bytes) (hp : p.isPrefixOf k = true) (h : p.isPrefixOf k' = false) : k ≠ k' := by
  rintro rfl; rw [hp] at h; cases h

theorem isSuffix_iff (suf k : Bytes) : isSuffix suf k = true ↔ ∃ r, k = r ++ suf := by
  rw [isSuffix, List.isPrefixOf_iff_prefix, List.reverse_prefix]
  exact ⟨fun ⟨r, e⟩ => ⟨r, e.symm⟩, fun ⟨r, e⟩ => ⟨r, e.symm⟩⟩

theorem mem_iter (s : Store) (p : Bytes) (kv : Bytes × Bytes) : kv ∈ iter s p ↔ (kv ∈ s ∧ p.isPrefixOf kv.1 = true) := by
  simp [iter, List.mem_filter]

theorem sorted_iter {s : Store} (h : Sorted s) (p : Bytes) : Sorted (iter s p) := sorted_filter h _

/-- `k` big-endian bytes of `n`, the least significant one peeled off per step. `be64 n` is `beBytes 8 n.toNat`
(`be64_eq`); both round trips with `natOfBE` are inductions over the width. -/
def beBytes : Nat → Nat → Bytes
  | 0, _ => []
  | k + 1, n => beBytes k (n / 256) ++ [UInt8.ofNat (n % 256)]

theorem natOfBE_snoc (a : Bytes) (x : UInt8) : natOfBE (a ++ [x]) = 256 * natOfBE a + x.toNat := by
  simp [natOfBE, List.foldl_append, Nat.mul_comm]

theorem natOfBE_beBytes (k n : Nat) : natOfBE (beBytes k n) = n % 256 ^ k := by
  induction k generalizing n with
  | zero => rw [Nat.pow_zero, Nat.mod_one]; rfl
  | succ k ih =>
    rw [beBytes, natOfBE_snoc, ih, UInt8.toNat_ofNat_of_lt' (Nat.mod_lt n (by decide)),
      Nat.pow_succ' (m := 256) (n := k), Nat.mod_mul, Nat.add_comm]

theorem beBytes_natOfBE_reverse (l : Bytes) : beBytes l.length (natOfBE l.reverse) = l.reverse := by
  induction l with
  | nil => rfl
  | cons x l ih =>
    rw [List.reverse_cons, natOfBE_snoc, List.length_cons, beBytes, Nat.mul_add_div (by decide),
      Nat.div_eq_of_lt (UInt8.toNat_lt x), Nat.add_zero, Nat.mul_add_mod_self_left,
      Nat.mod_eq_of_lt (UInt8.toNat_lt x), ih, UInt8.ofNat_toNat]

theorem beBytes_natOfBE (bs : Bytes) : beBytes bs.length (natOfBE bs) = bs := by
  have := beBytes_natOfBE_reverse bs.reverse
  rwa [List.length_reverse, List.reverse_reverse] at this

theorem be64_eq (n : UInt64) : be64 n = beBytes 8 n.toNat := by
  simp only [be64, beBytes, Nat.div_div_eq_div_mul, List.map, List.nil_append, List.cons_append, Nat.reduceMul,
    Nat.reducePow, Nat.div_one]

theorem be64_length (n : UInt64) : (be64 n).length = 8 := rfl

theorem be64_u64OfBE (bs : Bytes) (h : bs.length = 8) : be64 (u64OfBE bs) = bs := by
  -- `natOfBE bs` is below `256 ^ 8`, being its own remainder
  have hlt : natOfBE bs % 256 ^ 8 = natOfBE bs := by
    rw [← h, ← natOfBE_beBytes, beBytes_natOfBE]
  rw [be64_eq, u64OfBE, UInt64.toNat_ofNat', show 2 ^ 64 = 256 ^ 8 from rfl, hlt, ← h, beBytes_natOfBE]

theorem u64OfBE_be64 (n : UInt64) : u64OfBE (be64 n) = n := by
  rw [u64OfBE, be64_eq, natOfBE_beBytes, Nat.mod_eq_of_lt (UInt64.toNat_lt n), UInt64.ofNat_toNat]

theorem be64_inj {a b : UInt64} (h : be64 a = be64 b) : a = b := by
  rw [← u64OfBE_be64 a, ← u64OfBE_be64 b, h]

theorem digit_toNat (n : Nat) : (digit n).toNat = 48 + n % 10 :=
  UInt8.toNat_ofNat_of_lt' (Nat.add_lt_add_left (Nat.lt_trans (Nat.mod_lt n (by decide)) (by decide : 10 < 208)) 48)

theorem parseDecAux_digit (n : Nat) (acc : Bytes) (a : Nat) :
    parseDecAux (digit n :: acc) a = parseDecAux acc (a * 10 + n % 10) := by
  have h := Nat.mod_lt n (show 10 > 0 by decide)
  rw [parseDecAux, digit_toNat, if_pos ⟨Nat.le_add_right .., Nat.add_le_add_left (Nat.le_of_lt_succ h) 48⟩,
    Nat.add_sub_cancel_left]

/-- parsing what `toDecAux` put in front of `acc` amounts to starting the parse of `acc` at `n` -/
theorem parseDecAux_toDecAux (fuel : Nat) : ∀ n acc, n < 10 ^ fuel →
    parseDecAux (toDecAux fuel n acc) 0 = parseDecAux acc n := by
  induction fuel with
  | zero =>
    intro n acc hn
    have : n = 0 := by simpa using hn
    subst this; rfl
  | succ f ih =>
    intro n acc hn
    rw [toDecAux]
    split
    · next h10 => rw [parseDecAux_digit, Nat.zero_mul, Nat.zero_add, Nat.mod_eq_of_lt h10]
    · rw [ih _ _ (Nat.div_lt_of_lt_mul (Nat.pow_succ' ▸ hn)), parseDecAux_digit, Nat.mod_mod, Nat.div_add_mod']

theorem toDecAux_ne_nil (fuel n : Nat) {acc : Bytes} (h : acc ≠ []) : toDecAux fuel n acc ≠ [] := by
  induction fuel generalizing n acc with
  | zero => exact h
  | succ f ih =>
    rw [toDecAux]
    split
    · exact List.cons_ne_nil _ _
    · exact ih _ (List.cons_ne_nil _ _)

theorem toDec_ne_nil (n : Nat) : toDec n ≠ [] := by
  rw [toDec, toDecAux]
  split
  · exact List.cons_ne_nil _ _
  · exact toDecAux_ne_nil _ _ (List.cons_ne_nil _ _)

theorem parseDec_toDec (n : Nat) (h : n < 2 ^ 64) : parseDec (toDec n) = some n := by
  rw [parseDec, if_neg (toDec_ne_nil n), toDec, parseDecAux_toDecAux 20 n [] (Nat.lt_trans h (by decide))]
  simp [parseDecAux, h]

theorem toDecAux_noSlash (fuel n : Nat) {acc : Bytes} (h : slash ∉ acc) : slash ∉ toDecAux fuel n acc := by
  induction fuel generalizing n acc with
  | zero => exact h
  | succ f ih =>
    have hd : ∀ d, slash ∉ digit d :: acc := fun d hm => by
      rcases List.mem_cons.mp hm with e | hm
      · have := digit_toNat d
        rw [← e, show slash.toNat = 47 from rfl] at this
        exact absurd this (Nat.ne_of_lt (Nat.lt_of_lt_of_le (by decide : 47 < 48) (Nat.le_add_right 48 _)))
      · exact h hm
    rw [toDecAux]
    split
    · exact hd n
    · exact ih _ (hd _)

theorem toDec_noSlash (n : Nat) : slash ∉ toDec n := toDecAux_noSlash 20 n (List.not_mem_nil)

theorem splitOn_noSep {sep : UInt8} {a : Bytes} (h : sep ∉ a) : splitOn sep a = [a] := by
  induction a with
  | nil => rfl
  | cons c r ih =>
    have hc : c ≠ sep := fun e => h (e ▸ List.mem_cons_self ..)
    have hr : sep ∉ r := fun m => h (List.mem_cons_of_mem _ m)
    simp [splitOn, hc, ih hr]

theorem splitOn_append {sep : UInt8} {a : Bytes} (h : sep ∉ a) (b : Bytes) :
    splitOn sep (a ++ sep :: b) = a :: splitOn sep b := by
  induction a with
  | nil => simp [splitOn]
  | cons c r ih =>
    have hc : c ≠ sep := fun e => h (e ▸ List.mem_cons_self ..)
    have hr : sep ∉ r := fun m => h (List.mem_cons_of_mem _ m)
    simp [splitOn, hc, ih hr]

theorem splitOn_ne_nil (sep : UInt8) (k : Bytes) : splitOn sep k ≠ [] := by
  cases k with
  | nil => simp [splitOn]
  | cons c r =>
    simp only [splitOn]
    split
    · simp
    · split <;> simp

theorem splitOn_noSep_mem {sep : UInt8} (k : Bytes) : ∀ x ∈ splitOn sep k, sep ∉ x := by
  induction k with
  | nil => intro x hx; simp [splitOn] at hx; subst hx; simp
  | cons c r ih =>
    intro x hx
    simp only [splitOn] at hx
    split at hx
    · rcases List.mem_cons.mp hx with e | hx'
      · subst e; simp
      · exact ih x hx'
    · next hc =>
      split at hx
      · simp at hx; subst hx; simp; exact fun e => hc e.symm
      · next hd tl heq =>
        rcases List.mem_cons.mp hx with e | hx'
        · subst e
          have := ih hd (heq ▸ List.mem_cons_self ..)
          intro hm
          rcases List.mem_cons.mp hm with e | hm'
          · exact hc e.symm
          · exact this hm'
        · exact ih x (heq ▸ List.mem_cons_of_mem _ hx')

theorem joinSlash_cons_cons (a b : Bytes) (r : List Bytes) : joinSlash (a :: b :: r) = a ++ slash :: joinSlash (b :: r) := rfl

theorem joinSlash_splitOn (k : Bytes) : joinSlash (splitOn slash k) = k := by
  induction k with
  | nil => rfl
  | cons c r ih =>
    simp only [splitOn]
    split
    · next e =>
      subst e
      cases hs : splitOn slash r with
      | nil => exact absurd hs (splitOn_ne_nil _ _)
      | cons h t =>
        rw [joinSlash_cons_cons, ← hs, ih]; rfl
    · split
      · next heq => exact absurd heq (splitOn_ne_nil _ _)
      · next hd tl heq =>
        rw [heq] at ih
        cases tl with
        | nil => simp [joinSlash] at ih ⊢; exact ih
        | cons t2 tl' =>
          rw [joinSlash_cons_cons] at ih ⊢
          simp [← ih]

theorem breakAt_some {sep : UInt8} {k a b : Bytes} (h : breakAt sep k = some (a, b)) : k = a ++ sep :: b ∧ sep ∉ a := by
  induction k generalizing a with
  | nil => simp [breakAt] at h
  | cons c r ih =>
    simp only [breakAt] at h
    split at h
    · next e => cases h; subst e; simp
    · next hc =>
      split at h
      · cases h
      · next a' b' heq =>
        cases h
        obtain ⟨e, hn⟩ := ih heq
        refine ⟨by rw [e]; rfl, ?_⟩
        intro hm
        rcases List.mem_cons.mp hm with e' | hm'
        · exact hc e'.symm
        · exact hn hm'

theorem breakAt_append {sep : UInt8} {a : Bytes} (h : sep ∉ a) (b : Bytes) : breakAt sep (a ++ sep :: b) = some (a, b) := by
  induction a with
  | nil => simp [breakAt]
  | cons c r ih =>
    have hc : c ≠ sep := fun e => h (e ▸ List.mem_cons_self ..)
    have hr : sep ∉ r := fun m => h (List.mem_cons_of_mem _ m)
    simp [breakAt, hc, ih hr]

end TM.GKv
