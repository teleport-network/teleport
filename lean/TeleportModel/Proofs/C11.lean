import TeleportModel.Model.Convert
import TeleportModel.Generated.AggregateParams
import TeleportModel.Lemmas.Outcome
/-
C11 — coin ⇄ ERC-20 conversion: what each path did when it returned `.ok`; exact amounts or nothing for handlers, delivered
messages and the ICS-20 hook; gating; the two backing invariants over histories; the witness of the escrow defect; a switched-off
pair or module stays refused (restarts, parameters by key, governance rewrites); failed balance readings; the harness' tokens.
All statements are about `TM.Convert` (Model/Convert.lean) for an ARBITRARY token behaviour `B` unless a
hypothesis says otherwise.
-/
namespace TM.Convert

variable {σ : Type}

theorem ite_eq_cases {α} {c : Prop} [Decidable c] {a b o : α} :
    (if c then a else b) = o ↔ (c ∧ a = o) ∨ (¬ c ∧ b = o) := by
  by_cases h : c <;> simp [h]

section
variable (b : Bank) (a : Addr) (d : Denom) (v : Nat)

theorem Bank.setBal_bal (a' : Addr) (d' : Denom) :
    (b.setBal a d v).bal a' d' = if a' = a ∧ d' = d then v else b.bal a' d' := rfl
theorem Bank.setBal_supply : (b.setBal a d v).supply = b.supply := rfl
theorem Bank.setBal_blocked : (b.setBal a d v).blocked = b.blocked := rfl
theorem Bank.setBal_sendEnabled : (b.setBal a d v).sendEnabled = b.sendEnabled := rfl
theorem Bank.setSupply_bal : (b.setSupply d v).bal = b.bal := rfl
theorem Bank.setSupply_supply (d' : Denom) : (b.setSupply d v).supply d' = if d' = d then v else b.supply d' := rfl
theorem Bank.setSupply_blocked : (b.setSupply d v).blocked = b.blocked := rfl
theorem Bank.setSupply_sendEnabled : (b.setSupply d v).sendEnabled = b.sendEnabled := rfl

end

section
variable {b b' : Bank} {a s t : Addr} {d : Denom} {amt : Nat}

theorem Bank.sub_ok (h : b.sub a d amt = .ok b') :
    validDenom d = true ∧ 0 < amt ∧ amt ≤ b.bal a d ∧ b' = b.setBal a d (b.bal a d - amt) := by
  simp only [Bank.sub, ite_err_eq_ok] at h
  obtain ⟨h1, h2, h⟩ := h
  injection h with h
  simp only [Bool.not_eq_true', Bool.not_eq_false, Bool.and_eq_true, decide_eq_true_eq] at h1
  exact ⟨h1.1, h1.2, Nat.le_of_not_lt h2, h.symm⟩

theorem Bank.add_ok (h : b.add a d amt = .ok b') :
    validDenom d = true ∧ 0 < amt ∧ b' = b.setBal a d (b.bal a d + amt) := by
  simp only [Bank.add, ite_err_eq_ok, ite_panic_eq_ok] at h
  obtain ⟨h1, _, h⟩ := h
  injection h with h
  simp only [Bool.not_eq_true', Bool.not_eq_false, Bool.and_eq_true, decide_eq_true_eq] at h1
  exact ⟨h1.1, h1.2, h.symm⟩

theorem Bank.send_ok (h : b.send s t d amt = .ok b') :
    validDenom d = true ∧ 0 < amt ∧ amt ≤ b.bal s d ∧
    (∀ a e, ¬(a = s ∧ e = d) → ¬(a = t ∧ e = d) → b'.bal a e = b.bal a e) ∧
    (s ≠ t → b'.bal s d = b.bal s d - amt ∧ b'.bal t d = b.bal t d + amt) ∧
    b'.supply = b.supply ∧ b'.blocked = b.blocked ∧ b'.sendEnabled = b.sendEnabled := by
  obtain ⟨b1, h1, h2⟩ := bind_eq_ok.mp h
  obtain ⟨hv, hp, hle, rfl⟩ := Bank.sub_ok h1
  obtain ⟨_, _, rfl⟩ := Bank.add_ok h2
  refine ⟨hv, hp, hle, fun a e h1 h2 => ?_, fun hst => ⟨?_, ?_⟩, ?_, ?_, ?_⟩
  · rw [Bank.setBal_bal, if_neg h2, Bank.setBal_bal, if_neg h1]
  · rw [Bank.setBal_bal, if_neg (fun x => hst x.1), Bank.setBal_bal, if_pos ⟨rfl, rfl⟩]
  · rw [Bank.setBal_bal, if_pos ⟨rfl, rfl⟩, Bank.setBal_bal, if_neg (fun x => hst x.1.symm)]
  · rw [Bank.setBal_supply, Bank.setBal_supply]
  · rw [Bank.setBal_blocked, Bank.setBal_blocked]
  · rw [Bank.setBal_sendEnabled, Bank.setBal_sendEnabled]

theorem Bank.sendFromModule_ok (h : b.sendFromModule t d amt = .ok b') :
    b.blocked t = false ∧ b.send moduleAddr t d amt = .ok b' := by
  simp only [Bank.sendFromModule, ite_err_eq_ok] at h
  exact ⟨by simpa using h.1, h.2⟩

theorem Bank.mint_ok (h : b.mint d amt = .ok b') :
    validDenom d = true ∧ 0 < amt ∧
    (∀ a e, b'.bal a e = if a = moduleAddr ∧ e = d then b.bal moduleAddr d + amt else b.bal a e) ∧
    (∀ e, b'.supply e = if e = d then b.supply d + amt else b.supply e) ∧
    b'.blocked = b.blocked ∧ b'.sendEnabled = b.sendEnabled := by
  obtain ⟨b1, h1, h2⟩ := bind_eq_ok.mp h
  obtain ⟨hv, hp, rfl⟩ := Bank.add_ok h1
  injection (ite_panic_eq_ok.mp h2).2 with h3
  subst h3
  refine ⟨hv, hp, fun a e => ?_, fun e => ?_, ?_, ?_⟩
  · rw [Bank.setSupply_bal, Bank.setBal_bal]
  · rw [Bank.setSupply_supply, Bank.setBal_supply]
  · rw [Bank.setSupply_blocked, Bank.setBal_blocked]
  · rw [Bank.setSupply_sendEnabled, Bank.setBal_sendEnabled]

theorem Bank.burn_ok (h : b.burn d amt = .ok b') :
    amt ≤ b.bal moduleAddr d ∧ amt ≤ b.supply d ∧
    (∀ a e, b'.bal a e = if a = moduleAddr ∧ e = d then b.bal moduleAddr d - amt else b.bal a e) ∧
    (∀ e, b'.supply e = if e = d then b.supply d - amt else b.supply e) ∧
    b'.blocked = b.blocked ∧ b'.sendEnabled = b.sendEnabled := by
  obtain ⟨b1, h1, h2⟩ := bind_eq_ok.mp h
  obtain ⟨_, _, hle, rfl⟩ := Bank.sub_ok h1
  obtain ⟨hsup, h2⟩ := ite_panic_eq_ok.mp h2
  injection h2 with h3
  subst h3
  refine ⟨hle, Nat.le_of_not_lt hsup, fun a e => ?_, fun e => ?_, ?_, ?_⟩
  · rw [Bank.setSupply_bal, Bank.setBal_bal]
  · rw [Bank.setSupply_supply, Bank.setBal_supply]
  · rw [Bank.setSupply_blocked, Bank.setBal_blocked]
  · rw [Bank.setSupply_sendEnabled, Bank.setBal_sendEnabled]

end

section
variable {B : Addr → Behaviour σ} {w w' : World σ} {d : Denom} {amt : Nat} {recv snd : Addr}

theorem ne_of_blocked {b : Bank} {a c : Addr} (hc : b.blocked c = true) (ha : b.blocked a = false) : a ≠ c := by
  intro e; rw [e, hc] at ha; cases ha

theorem coinNativeCoin_ok {pair : Pair}
    (h : convertCoinNativeCoin B w pair d amt recv snd = .ok w') :
    ∃ bank1 st v ap b0,
      w.bank.send snd moduleAddr d amt = .ok bank1 ∧
      (B pair.addr).mint (w.tok pair.addr) moduleAddr recv amt = .ret st v ap ∧
      w' = { (w.setTok pair.addr st) with bank := bank1 } ∧
      balOf B w pair.addr recv = some b0 ∧ balOf B w' pair.addr recv = some (b0 + amt) := by
  unfold convertCoinNativeCoin at h
  extract_lets c before at h
  split at h
  · cases h
  · cases h
  rename_i bank1 hs
  extract_lets w1 at h
  split at h
  · cases h
  rename_i st v ap hm
  extract_lets w2 at h
  split at h
  · rename_i b0 b1 hb0 hb1
    obtain ⟨hne, h⟩ := ite_err_eq_ok.mp h
    injection h with h
    subst h
    exact ⟨bank1, st, v, ap, b0, hs, hm, rfl, hb0, Decidable.of_not_not hne ▸ hb1⟩
  · cases h

theorem erc20NativeCoin_ok {pair : Pair}
    (h : convertERC20NativeCoin B w pair d amt recv snd = .ok w') :
    ∃ st v ap bank2 t0,
      (B pair.addr).burnCoins (w.tok pair.addr) moduleAddr snd amt = .ret st v ap ∧
      w.bank.sendFromModule recv d amt = .ok bank2 ∧
      w' = { (w.setTok pair.addr st) with bank := bank2 } ∧
      amt ≤ t0 ∧ balOf B w pair.addr snd = some t0 ∧ balOf B w' pair.addr snd = some (t0 - amt) := by
  unfold convertERC20NativeCoin at h
  extract_lets c tok0 at h
  split at h
  · cases h
  · cases h
  split at h
  · cases h
  rename_i st v ap hb
  extract_lets w1 at h
  split at h
  · cases h
  · cases h
  rename_i bank2 hs
  extract_lets w2 at h
  obtain ⟨_, h⟩ := ite_err_eq_ok.mp h
  split at h
  · rename_i t0 t1 ht0 ht1
    obtain ⟨hne, h⟩ := ite_err_eq_ok.mp h
    injection h with h
    subst h
    simp at hne
    exact ⟨st, v, ap, bank2, t0, hb, hs, rfl, hne.1, ht0, hne.2 ▸ ht1⟩
  · cases h

theorem erc20NativeToken_ok {pair : Pair}
    (h : convertERC20NativeToken B w pair d amt recv snd = .ok w') :
    ∃ st bank2 bank3 t0,
      (B pair.addr).transfer (w.tok pair.addr) snd moduleAddr amt = .ret st (some true) false ∧
      w.bank.mint d amt = .ok bank2 ∧ bank2.sendFromModule recv d amt = .ok bank3 ∧
      w' = { (w.setTok pair.addr st) with bank := bank3 } ∧
      balOf B w pair.addr moduleAddr = some t0 ∧ balOf B w' pair.addr moduleAddr = some (t0 + amt) := by
  unfold convertERC20NativeToken at h
  extract_lets c tok0 at h
  split at h
  · cases h
  · cases h
  split at h
  · cases h
  · cases h
  · cases h
  rename_i st ap htr
  extract_lets w1 at h
  split at h
  · rename_i t0 t1 ht0 ht1
    obtain ⟨hne, h⟩ := ite_err_eq_ok.mp h
    split at h
    · cases h
    · cases h
    rename_i bank2 hm
    split at h
    · cases h
    · cases h
    rename_i bank3 hs
    extract_lets w3 at h
    obtain ⟨_, h⟩ := ite_err_eq_ok.mp h
    obtain ⟨hap, h⟩ := ite_err_eq_ok.mp h
    injection h with h
    subst h
    simp at hap
    subst hap
    exact ⟨st, bank2, bank3, t0, htr, hm, hs, rfl, ht0, Decidable.of_not_not hne ▸ ht1⟩
  · cases h

theorem coinNativeERC20_ok {pair : Pair}
    (h : convertCoinNativeERC20 B w pair d amt recv snd = .ok w') :
    ∃ bank1 st bank3 t0 e0,
      w.bank.send snd moduleAddr d amt = .ok bank1 ∧
      (B pair.addr).transfer (w.tok pair.addr) moduleAddr recv amt = .ret st (some true) false ∧
      bank1.burn d amt = .ok bank3 ∧
      w' = { (w.setTok pair.addr st) with bank := bank3 } ∧
      balOf B w pair.addr recv = some t0 ∧ balOf B w' pair.addr recv = some (t0 + amt) ∧
      amt ≤ e0 ∧ balOf B w pair.addr moduleAddr = some e0 ∧ balOf B w' pair.addr moduleAddr = some (e0 - amt) := by
  unfold convertCoinNativeERC20 at h
  extract_lets c tok0 esc0 at h
  split at h
  · cases h
  · cases h
  rename_i bank1 hs
  extract_lets w1 at h
  split at h
  · cases h
  · cases h
  · cases h
  rename_i st ap htr
  extract_lets w2 at h
  split at h
  · rename_i t0 t1 ht0 ht1
    obtain ⟨hne, h⟩ := ite_err_eq_ok.mp h
    split at h
    · rename_i e0 e1 he0 he1
      obtain ⟨hesc, h⟩ := ite_err_eq_ok.mp h
      split at h
      · cases h
      · cases h
      rename_i bank3 hbn
      obtain ⟨hap, h⟩ := ite_err_eq_ok.mp h
      injection h with h
      subst h
      simp at hap hesc
      subst hap
      exact ⟨bank1, st, bank3, t0, e0, hs, htr, hbn, rfl, ht0, Decidable.of_not_not hne ▸ ht1, hesc.1, he0,
        hesc.2 ▸ he1⟩
    · cases h
  · cases h

/-- What the gate established for an accepted message. -/
structure Gate (w : World σ) (token denom : String) (j : Id) (q : Pair) (recv : Addr) : Prop where
  enabled : w.enabled = true
  tokenId : w.pairId token = some j
  denomId : w.pairId denom = some j
  pair : w.pairs j = some q
  pairEnabled : q.enabled = true
  notBlocked : w.bank.blocked recv = false

theorem mintingEnabled_cases {s r : Addr} {token denom : String} {o : Outcome Pair}
    (h : mintingEnabled w s r token denom = o) :
    (∃ c, o = .err c) ∨ ∃ j q, o = .ok q ∧ Gate w token denom j q r := by
  unfold mintingEnabled at h
  rcases ite_eq_cases.mp h with ⟨_, h⟩ | ⟨hen, h⟩
  · exact Or.inl ⟨_, h.symm⟩
  dsimp only at h
  rcases ite_eq_cases.mp h with ⟨_, h⟩ | ⟨hid, h⟩
  · exact Or.inl ⟨_, h.symm⟩
  split at h
  · exact Or.inl ⟨_, h.symm⟩
  rename_i j hj
  split at h
  · exact Or.inl ⟨_, h.symm⟩
  rename_i q hq
  rcases ite_eq_cases.mp h with ⟨_, h⟩ | ⟨hqe, h⟩
  · exact Or.inl ⟨_, h.symm⟩
  rcases ite_eq_cases.mp h with ⟨_, h⟩ | ⟨hbl, h⟩
  · exact Or.inl ⟨_, h.symm⟩
  rcases ite_eq_cases.mp h with ⟨_, h⟩ | ⟨_, h⟩
  · exact Or.inl ⟨_, h.symm⟩
  simp only [Bool.not_eq_true', Bool.not_eq_false] at hen hqe
  exact Or.inr ⟨j, q, h.symm, hen, hj, (Decidable.of_not_not hid).trans hj, hq, hqe, Bool.eq_false_iff.mpr hbl⟩

theorem mintingEnabled_ok {s r : Addr} {token denom : String} {q : Pair}
    (h : mintingEnabled w s r token denom = .ok q) : ∃ j, Gate w token denom j q r := by
  rcases mintingEnabled_cases h with ⟨c, hc⟩ | ⟨j, q', hq, g⟩
  · cases hc
  · cases hq; exact ⟨j, g⟩

/-- the gate refuses `token` whoever sends to whomever (the pair may also be missing) -/
def GateShut (w : World σ) (token : String) : Prop :=
  w.enabled = false ∨ ∃ i, w.pairId token = some i ∧ ∀ p, w.pairs i = some p → p.enabled = false

theorem mintingEnabled_refuses {s r : Addr} {token denom : String}
    (hg : GateShut w token ∨ w.bank.blocked r = true) : ∃ c, mintingEnabled w s r token denom = .err c := by
  rcases mintingEnabled_cases rfl with h | ⟨j, q, _, g⟩
  · exact h
  · exfalso
    rcases hg with (hoff | ⟨i, hi, hdis⟩) | hb
    · rw [g.enabled] at hoff; cases hoff
    · rw [g.tokenId] at hi; cases hi
      have := hdis q g.pair
      rw [g.pairEnabled] at this; cases this
    · rw [g.notBlocked] at hb; cases hb

/-- The three ways a handler can return without error. -/
inductive Handled (w w' : World σ) (pair : Pair) (cl : Bool) (modPath extPath : Outcome (World σ)) : Prop where
  | clean (hcl : cl = true) (hcode : w.code pair.addr = false) (hdel : w.deletePair pair = some w')
  | viaModule (hcl : cl = false) (hcode : w.code pair.addr = true) (hown : pair.owner = .module) (hp : modPath = .ok w')
  | viaExternal (hcl : cl = false) (hcode : w.code pair.addr = true) (hown : pair.owner = .external) (hp : extPath = .ok w')

theorem dispatch_ok {q : Pair} {cl : Bool} {m e : Outcome (World σ)}
    (h : (if !w.code q.addr then
            match w.deletePair q with
            | none => .panic "GetID"
            | some w' => .ok (w', true)
          else match q.owner with
            | .module => m.bind (fun w' => .ok (w', false))
            | .external => e.bind (fun w' => .ok (w', false))
            | .unspecified => .err "aggregate:6") = Outcome.ok (w', cl)) : Handled w w' q cl m e := by
  cases hc : w.code q.addr <;> simp only [hc, Bool.not_false, Bool.not_true, if_true, Bool.false_eq_true, if_false] at h
  · split at h
    · cases h
    · rename_i hd; cases h; exact .clean rfl hc hd
  · split at h
    · rename_i ho
      obtain ⟨x, hx, hy⟩ := bind_eq_ok.mp h
      cases hy; exact .viaModule rfl hc ho hx
    · rename_i ho
      obtain ⟨x, hx, hy⟩ := bind_eq_ok.mp h
      cases hy; exact .viaExternal rfl hc ho hx
    · cases h

theorem handleCoin_ok {cl : Bool} (h : handleCoin B w d amt recv snd = .ok (w', cl)) :
    ∃ j q, Gate w d d j q recv ∧
      Handled w w' q cl (convertCoinNativeCoin B w q d amt recv snd) (convertCoinNativeERC20 B w q d amt recv snd) := by
  unfold handleCoin at h
  split at h
  · cases h
  · cases h
  rename_i q hme
  obtain ⟨j, g⟩ := mintingEnabled_ok hme
  exact ⟨j, q, g, dispatch_ok h⟩

theorem handleERC20_ok {c : String} {cl : Bool} (h : handleERC20 B w c d amt recv snd = .ok (w', cl)) :
    ∃ j q, Gate w c d j q recv ∧
      Handled w w' q cl (convertERC20NativeCoin B w q d amt recv snd) (convertERC20NativeToken B w q d amt recv snd) := by
  unfold handleERC20 at h
  split at h
  · cases h
  · cases h
  rename_i q hme
  obtain ⟨j, g⟩ := mintingEnabled_ok hme
  exact ⟨j, q, g, dispatch_ok h⟩

theorem deliver_cases {vb : Bool} {o : Outcome (World σ × Bool)} {r : Res}
    (h : (if !vb then (w, Res.rejected "basic") else finish w o) = (w', r)) :
    (w' = w ∧ ((∃ c, r = .rejected c) ∨ r = .panicked)) ∨
    vb = true ∧ ∃ cl, o = .ok (w', cl) ∧ r = (if cl then .cleaned else .converted) := by
  cases vb <;> simp only [Bool.not_false, Bool.not_true, if_true, Bool.false_eq_true, if_false] at h
  · cases h; exact Or.inl ⟨rfl, Or.inl ⟨_, rfl⟩⟩
  · unfold finish at h
    split at h <;> cases h
    · exact Or.inr ⟨rfl, false, rfl, rfl⟩
    · exact Or.inr ⟨rfl, true, rfl, rfl⟩
    · exact Or.inl ⟨rfl, Or.inl ⟨_, rfl⟩⟩
    · exact Or.inl ⟨rfl, Or.inr rfl⟩

theorem MsgCoin.of_validateBasic {m : MsgCoin} (hv : m.validateBasic = true) :
    0 < m.amount ∧ ∃ s, m.senderAddr = some s := by
  simp [MsgCoin.validateBasic] at hv
  exact ⟨hv.1.1.2, Option.isSome_iff_exists.mp hv.1.2⟩

theorem MsgERC20.of_validateBasic {m : MsgERC20} (hv : m.validateBasic = true) :
    0 < m.amount ∧ ∃ r, m.receiverAddr = some r := by
  simp [MsgERC20.validateBasic] at hv
  exact ⟨hv.1.1.2, Option.isSome_iff_exists.mp hv.1.2⟩

theorem handlerAddr_of_some {r : Option Bech32} {a : Addr} (h : accAddressFromBech32 r = some a) : handlerAddr r = a := by
  simp [handlerAddr, h]

/-- Stage 1 then stage 2: an accepted message was accepted by `ValidateBasic`, so the handler's own (error-dropping)
parse yields exactly the address `sdk.AccAddressFromBech32` reads from the message. -/
theorem deliverCoin_cases {m : MsgCoin} {r : Res}
    (h : deliverCoin B w m = (w', r)) :
    (w' = w ∧ ((∃ c, r = .rejected c) ∨ r = .panicked)) ∨
    ∃ s cl, 0 < m.amount ∧ m.senderAddr = some s ∧
      handleCoin B w m.denom m.amount.toNat (hexToAddr m.receiver) s = .ok (w', cl) ∧
      r = (if cl then .cleaned else .converted) := by
  rcases deliver_cases h with h | ⟨hv, cl, ho, hr⟩
  · exact Or.inl h
  · obtain ⟨hpos, s, hs⟩ := MsgCoin.of_validateBasic hv
    rw [handlerAddr_of_some hs] at ho
    exact Or.inr ⟨s, cl, hpos, hs, ho, hr⟩

theorem deliverERC20_cases {m : MsgERC20} {r : Res}
    (h : deliverERC20 B w m = (w', r)) :
    (w' = w ∧ ((∃ c, r = .rejected c) ∨ r = .panicked)) ∨
    ∃ rc cl, 0 < m.amount ∧ m.receiverAddr = some rc ∧
      handleERC20 B w m.contract m.denom m.amount.toNat rc (hexToAddr m.sender) = .ok (w', cl) ∧
      r = (if cl then .cleaned else .converted) := by
  rcases deliver_cases h with h | ⟨hv, cl, ho, hr⟩
  · exact Or.inl h
  · obtain ⟨hpos, rc, hs⟩ := MsgERC20.of_validateBasic hv
    rw [handlerAddr_of_some hs] at ho
    exact Or.inr ⟨rc, cl, hpos, hs, ho, hr⟩

theorem deliverCoin_keeps {m : MsgCoin} {P : World σ → Prop} (hw : P w)
    (hconv : ∀ s w1 cl, m.senderAddr = some s →
      handleCoin B w m.denom m.amount.toNat (hexToAddr m.receiver) s = .ok (w1, cl) → P w1) :
    P (deliverCoin B w m).1 := by
  cases hr : deliverCoin B w m with
  | mk w1 r =>
    rcases deliverCoin_cases hr with ⟨h1, _⟩ | ⟨s, cl, _, hsd, hh, _⟩
    · rw [h1]; exact hw
    · exact hconv s w1 cl hsd hh

theorem deliverERC20_keeps {m : MsgERC20} {P : World σ → Prop} (hw : P w)
    (hconv : ∀ rc w1 cl,
      handleERC20 B w m.contract m.denom m.amount.toNat rc (hexToAddr m.sender) = .ok (w1, cl) → P w1) :
    P (deliverERC20 B w m).1 := by
  cases hr : deliverERC20 B w m with
  | mk w1 r =>
    rcases deliverERC20_cases hr with ⟨h1, _⟩ | ⟨rc, cl, _, _, hh, _⟩
    · rw [h1]; exact hw
    · exact hconv rc w1 cl hh

structure SendEffect (b b' : Bank) (s t : Addr) (d : Denom) (amt : Nat) : Prop where
  valid : validDenom d = true
  pos : 0 < amt
  enough : amt ≤ b.bal s d
  src : b'.bal s d = b.bal s d - amt
  dst : b'.bal t d = b.bal t d + amt
  frame : ∀ a e, ¬(a = s ∧ e = d) → ¬(a = t ∧ e = d) → b'.bal a e = b.bal a e
  supply : b'.supply = b.supply
  blocked : b'.blocked = b.blocked
  sendEnabled : b'.sendEnabled = b.sendEnabled

theorem Bank.send_effect {b b' : Bank} {s t : Addr} (h : b.send s t d amt = .ok b')
    (hst : s ≠ t) : SendEffect b b' s t d amt := by
  obtain ⟨hv, hp, hle, hf, hsd, h1, h2, h3⟩ := Bank.send_ok h
  exact ⟨hv, hp, hle, (hsd hst).1, (hsd hst).2, hf, h1, h2, h3⟩

end

def sumMap (l : List Denom) (f : Denom → Nat) : Nat := (l.map f).sum

theorem sumMap_cons (x : Denom) (xs : List Denom) (f : Denom → Nat) : sumMap (x :: xs) f = f x + sumMap xs f := rfl

theorem sumMap_congr {l : List Denom} {f g : Denom → Nat} (h : ∀ e ∈ l, g e = f e) : sumMap l g = sumMap l f :=
  congrArg List.sum (List.map_congr_left h)

theorem sumMap_mono {l : List Denom} {f g : Denom → Nat} (h : ∀ e ∈ l, f e ≤ g e) : sumMap l f ≤ sumMap l g := by
  induction l with
  | nil => exact Nat.le_refl _
  | cons x xs ih =>
    rw [sumMap_cons, sumMap_cons]
    exact Nat.add_le_add (h x (by simp)) (ih (fun e he => h e (by simp [he])))

theorem sumMap_update {l : List Denom} {f g : Denom → Nat} {d : Denom} (hn : l.Nodup) (hd : d ∈ l)
    (h : ∀ e, e ≠ d → g e = f e) : sumMap l g + f d = sumMap l f + g d := by
  induction l with
  | nil => cases hd
  | cons x xs ih =>
    rw [sumMap_cons, sumMap_cons]
    rw [List.nodup_cons] at hn
    by_cases hx : x = d
    · subst hx
      rw [sumMap_congr (fun e he => h e (fun c => hn.1 (c ▸ he))), Nat.add_right_comm, Nat.add_right_comm (f x),
        Nat.add_comm (g x)]
    · rw [h x hx, Nat.add_assoc, ih hn.2 ((List.mem_cons.mp hd).resolve_left (fun e => hx e.symm)), Nat.add_assoc]

theorem le_sumMap_of_mem {l : List Denom} {f : Denom → Nat} {d : Denom} (hd : d ∈ l) : f d ≤ sumMap l f := by
  induction l with
  | nil => cases hd
  | cons x xs ih =>
    rw [sumMap_cons]
    rcases List.mem_cons.mp hd with h1 | h1
    · subst h1; exact Nat.le_add_right _ _
    · exact Nat.le_trans (ih h1) (Nat.le_add_left _ _)

/-! ## registry well-formedness (taken as given: C12 owns the registry) and its preservation -/

/-- The registry indexes agree with the pair table, denominations are listed once and never look like a hex
address, and the bank blocks the module account as a receiver (app.go `BlockedAddrs`). -/
structure WellFormed (w : World σ) : Prop where
  id_ok : ∀ i p, w.pairs i = some p → p.id? = some i
  erc_ok : ∀ a i, w.byErc20 a = some i → ∃ p, w.pairs i = some p ∧ p.addr = a
  den_ok : ∀ d i, w.byDenom d = some i → ∃ p, w.pairs i = some p ∧ d ∈ p.denoms
  erc_back : ∀ i p, w.pairs i = some p → w.byErc20 p.addr = some i
  den_back : ∀ i p, w.pairs i = some p → ∀ d ∈ p.denoms, w.byDenom d = some i
  nodup : ∀ i p, w.pairs i = some p → p.denoms.Nodup
  not_hex : ∀ i p, w.pairs i = some p → ∀ d ∈ p.denoms, isHexAddress d = false
  module_blocked : w.bank.blocked moduleAddr = true

/-- `w'` has at most the pairs of `w` (same address, denominations, owner), at most its index entries, and the same
bank flags. Every action admitted by `Action.signed` satisfies this (`AddCoin` and `UpdateTokenPairERC20` do not). -/
structure Sub (w w' : World σ) : Prop where
  pairs : ∀ i p', w'.pairs i = some p' → ∃ p, w.pairs i = some p ∧ p'.addr = p.addr ∧ p'.denoms = p.denoms ∧ p'.owner = p.owner
  pairId : ∀ t i, w'.pairId t = some i → w.pairId t = some i
  blocked : w'.bank.blocked = w.bank.blocked

section
variable {B : Addr → Behaviour σ} {w w' : World σ} {d : Denom} {amt : Nat} {recv snd : Addr}

theorem Sub.of_registry_eq (h1 : w'.pairs = w.pairs) (h2 : w'.byErc20 = w.byErc20)
    (h3 : w'.byDenom = w.byDenom) (h4 : w'.bank.blocked = w.bank.blocked) : Sub w w' := by
  refine ⟨?_, ?_, h4⟩
  · intro i p' h; rw [h1] at h; exact ⟨p', h, rfl, rfl, rfl⟩
  · intro t i h; simpa [World.pairId, h2, h3] using h

theorem WellFormed.of_sub (hw : WellFormed w) (hs : Sub w w')
    (erc_ok : ∀ a i, w'.byErc20 a = some i → ∃ p, w'.pairs i = some p ∧ p.addr = a)
    (den_ok : ∀ d i, w'.byDenom d = some i → ∃ p, w'.pairs i = some p ∧ d ∈ p.denoms)
    (erc_back : ∀ i p, w'.pairs i = some p → w'.byErc20 p.addr = some i)
    (den_back : ∀ i p, w'.pairs i = some p → ∀ d ∈ p.denoms, w'.byDenom d = some i) : WellFormed w' := by
  refine ⟨?_, erc_ok, den_ok, erc_back, den_back, ?_, ?_, by rw [hs.blocked]; exact hw.module_blocked⟩
  all_goals
    intro i p' hp'
    obtain ⟨p, hp, ha, hd, _⟩ := hs.pairs i p' hp'
  · have := hw.id_ok i p hp
    simpa [Pair.id?, ha, hd] using this
  · rw [hd]; exact hw.nodup i p hp
  · rw [hd]; exact hw.not_hex i p hp

theorem WellFormed.of_registry_eq (hw : WellFormed w) (h1 : w'.pairs = w.pairs)
    (h2 : w'.byErc20 = w.byErc20) (h3 : w'.byDenom = w.byDenom) (h4 : w'.bank.blocked = w.bank.blocked) :
    WellFormed w' ∧ Sub w w' := by
  have hs := Sub.of_registry_eq h1 h2 h3 h4
  refine ⟨hw.of_sub hs ?_ ?_ ?_ ?_, hs⟩
  · rw [h1, h2]; exact hw.erc_ok
  · rw [h1, h3]; exact hw.den_ok
  · rw [h1, h2]; exact hw.erc_back
  · rw [h1, h3]; exact hw.den_back

theorem addr_ne_of_id_ne (hw : WellFormed w) {i j : Id} {p q : Pair} (hp : w.pairs i = some p)
    (hq : w.pairs j = some q) (hij : i ≠ j) : p.addr ≠ q.addr := by
  intro e
  have h1 := hw.erc_back i p hp
  rw [e, hw.erc_back j q hq] at h1
  cases h1; exact hij rfl

theorem deletePair_wf {w w' : World σ} {p : Pair} {i : Id} (hw : WellFormed w) (hp : w.pairs i = some p)
    (h : w.deletePair p = some w') :
    (WellFormed w' ∧ Sub w w' ∧ w'.bank = w.bank ∧ w'.tok = w.tok) ∧ w'.pairs i = none := by
  unfold World.deletePair at h
  rw [hw.id_ok i p hp] at h
  cases h
  have hsub : Sub w { w with
      pairs := fun j => if j = i then none else w.pairs j
      byErc20 := fun a => if a = p.addr then none else w.byErc20 a
      byDenom := fun d => if p.denoms.contains d then none else w.byDenom d } := by
    refine ⟨fun j q hq => ⟨q, (Option.ite_none_left_eq_some.mp hq).2, rfl, rfl, rfl⟩, ?_, rfl⟩
    intro t j ht
    simp only [World.pairId] at ht ⊢
    by_cases hx : isHexAddress t = true
    · rw [if_pos hx] at ht ⊢; exact (Option.ite_none_left_eq_some.mp ht).2
    · rw [if_neg hx] at ht ⊢; exact (Option.ite_none_left_eq_some.mp ht).2
  have hkeep : ∀ j q, w.pairs j = some q → q ≠ p → (if j = i then none else w.pairs j) = some q := by
    intro j q hq hne
    rw [if_neg, hq]
    rintro rfl
    rw [hp] at hq; cases hq; exact hne rfl
  refine ⟨⟨hw.of_sub hsub ?_ ?_ ?_ ?_, hsub, rfl, rfl⟩, if_pos rfl⟩
  · intro a j ha
    obtain ⟨hne, ha⟩ := Option.ite_none_left_eq_some.mp ha
    obtain ⟨q, hq, hqa⟩ := hw.erc_ok a j ha
    exact ⟨q, hkeep j q hq (fun e => hne (e ▸ hqa.symm)), hqa⟩
  · intro d j hd
    obtain ⟨hne, hd⟩ := Option.ite_none_left_eq_some.mp hd
    obtain ⟨q, hq, hqd⟩ := hw.den_ok d j hd
    exact ⟨q, hkeep j q hq (fun e => hne (by simpa [e] using hqd)), hqd⟩
  · intro j q hq
    obtain ⟨hji, hq⟩ := Option.ite_none_left_eq_some.mp hq
    exact (if_neg (addr_ne_of_id_ne hw hq hp hji)).trans (hw.erc_back j q hq)
  · intro j q hq d hd
    obtain ⟨hji, hq⟩ := Option.ite_none_left_eq_some.mp hq
    have hb := hw.den_back j q hq d hd
    show (if p.denoms.contains d then none else w.byDenom d) = some j
    rw [if_neg, hb]
    intro e
    rw [hw.den_back i p hp d (by simpa using e)] at hb
    cases hb; exact hji rfl

theorem WellFormed.setPair (hw : WellFormed w) {i : Id} {p p' : Pair} (hp : w.pairs i = some p)
    (ha : p'.addr = p.addr) (hd : p'.denoms = p.denoms) (ho : p'.owner = p.owner) :
    WellFormed { w with pairs := fun j => if j = i then some p' else w.pairs j } ∧
    Sub w { w with pairs := fun j => if j = i then some p' else w.pairs j } := by
  have key : ∀ j q, (if j = i then some p' else w.pairs j) = some q →
      ∃ q0, w.pairs j = some q0 ∧ q.addr = q0.addr ∧ q.denoms = q0.denoms ∧ q.owner = q0.owner := by
    intro j q hq
    by_cases hj : j = i
    · rw [if_pos hj] at hq; cases hq; exact ⟨p, hj ▸ hp, ha, hd, ho⟩
    · rw [if_neg hj] at hq; exact ⟨q, hq, rfl, rfl, rfl⟩
  have hsub : Sub w { w with pairs := fun j => if j = i then some p' else w.pairs j } := ⟨key, fun _ _ h => h, rfl⟩
  refine ⟨hw.of_sub hsub ?_ ?_ ?_ ?_, hsub⟩
  · intro a j h
    obtain ⟨q, hq, hqa⟩ := hw.erc_ok a j h
    by_cases hj : j = i
    · subst hj; rw [hp] at hq; cases hq; exact ⟨p', if_pos rfl, ha.trans hqa⟩
    · exact ⟨q, (if_neg hj).trans hq, hqa⟩
  · intro d j h
    obtain ⟨q, hq, hqd⟩ := hw.den_ok d j h
    by_cases hj : j = i
    · subst hj; rw [hp] at hq; cases hq; exact ⟨p', if_pos rfl, hd ▸ hqd⟩
    · exact ⟨q, (if_neg hj).trans hq, hqd⟩
  · intro j q hq
    obtain ⟨q0, hq0, h1, _, _⟩ := key j q hq
    rw [h1]; exact hw.erc_back j q0 hq0
  · intro j q hq d hd'
    obtain ⟨q0, hq0, _, h2, _⟩ := key j q hq
    exact hw.den_back j q0 hq0 d (h2 ▸ hd')

theorem toggle_wf {w : World σ} (hw : WellFormed w) (t : String) :
    WellFormed (toggleRelay w t) ∧ Sub w (toggleRelay w t) ∧ (toggleRelay w t).bank = w.bank ∧
      (toggleRelay w t).tok = w.tok := by
  unfold toggleRelay
  split
  · exact ⟨hw, Sub.of_registry_eq rfl rfl rfl rfl, rfl, rfl⟩
  rename_i i hi
  split
  · exact ⟨hw, Sub.of_registry_eq rfl rfl rfl rfl, rfl, rfl⟩
  rename_i p hp
  rw [hw.id_ok i p hp]
  dsimp only
  have h := hw.setPair (p' := { p with enabled := !p.enabled }) hp rfl rfl rfl
  exact ⟨h.1, h.2, rfl, rfl⟩

/-- registry, parameters and contract code untouched; only the token `c` may have a new state `st`. -/
structure SameRegistry (w w' : World σ) (c : Addr) (st : σ) : Prop where
  pairs : w'.pairs = w.pairs
  byErc20 : w'.byErc20 = w.byErc20
  byDenom : w'.byDenom = w.byDenom
  enabled : w'.enabled = w.enabled
  code : w'.code = w.code
  tok : w'.tok = fun a => if a = c then st else w.tok a
  blocked : w'.bank.blocked = w.bank.blocked
  sendEnabled : w'.bank.sendEnabled = w.bank.sendEnabled

/-- case 1.1 (the case numbers are those of the comments in msg_server.go): coins escrowed, tokens minted. -/
structure CoinViaModule (B : Addr → Behaviour σ) (w w' : World σ) (q : Pair) (d : Denom) (amt : Nat) (recv snd : Addr)
    (st : σ) (b0 : Nat) : Prop where
  call : ∃ v ap, (B q.addr).mint (w.tok q.addr) moduleAddr recv amt = .ret st v ap
  reg : SameRegistry w w' q.addr st
  bank : SendEffect w.bank w'.bank snd moduleAddr d amt
  recvBefore : balOf B w q.addr recv = some b0
  recvAfter : balOf B w' q.addr recv = some (b0 + amt)

/-- case 2.2: vouchers escrowed and burned, tokens released by the module. -/
structure CoinViaExternal (B : Addr → Behaviour σ) (w w' : World σ) (q : Pair) (d : Denom) (amt : Nat) (recv snd : Addr)
    (st : σ) (t0 : Nat) : Prop where
  call : (B q.addr).transfer (w.tok q.addr) moduleAddr recv amt = .ret st (some true) false
  reg : SameRegistry w w' q.addr st
  valid : validDenom d = true
  pos : 0 < amt
  enough : amt ≤ w.bank.bal snd d
  src : w'.bank.bal snd d = w.bank.bal snd d - amt
  frame : ∀ a e, ¬(a = snd ∧ e = d) → w'.bank.bal a e = w.bank.bal a e
  supplyEnough : amt ≤ w.bank.supply d
  supply : w'.bank.supply d = w.bank.supply d - amt
  supplyFrame : ∀ e, e ≠ d → w'.bank.supply e = w.bank.supply e
  recvBefore : balOf B w q.addr recv = some t0
  recvAfter : balOf B w' q.addr recv = some (t0 + amt)
  escrow : ∃ e0, amt ≤ e0 ∧ balOf B w q.addr moduleAddr = some e0 ∧ balOf B w' q.addr moduleAddr = some (e0 - amt)

theorem SameRegistry.of_setTok {c : Addr} {st : σ} {b : Bank} (h1 : b.blocked = w.bank.blocked)
    (h2 : b.sendEnabled = w.bank.sendEnabled) : SameRegistry w { (w.setTok c st) with bank := b } c st :=
  ⟨rfl, rfl, rfl, rfl, rfl, rfl, h1, h2⟩

theorem coinViaModule_of {q : Pair}
    (h : convertCoinNativeCoin B w q d amt recv snd = .ok w') (hs : snd ≠ moduleAddr) :
    ∃ st b0, CoinViaModule B w w' q d amt recv snd st b0 := by
  obtain ⟨bank1, st, v, ap, b0, h1, h2, rfl, h4, h5⟩ := coinNativeCoin_ok h
  have e1 := Bank.send_effect h1 hs
  exact ⟨st, b0, ⟨v, ap, h2⟩, .of_setTok e1.blocked e1.sendEnabled, e1, h4, h5⟩

theorem coinViaExternal_of {q : Pair}
    (h : convertCoinNativeERC20 B w q d amt recv snd = .ok w') (hs : snd ≠ moduleAddr) :
    ∃ st t0, CoinViaExternal B w w' q d amt recv snd st t0 := by
  obtain ⟨bank1, st, bank3, t0, e0, h1, h2, h3, rfl, h5, h6, h7, h8, h9⟩ := coinNativeERC20_ok h
  have e1 := Bank.send_effect h1 hs
  obtain ⟨_, hsup, hbal, hsupply, hbl, hse⟩ := Bank.burn_ok h3
  -- the burn undoes the escrow credit of the send
  refine ⟨st, t0, h2, .of_setTok (hbl.trans e1.blocked) (hse.trans e1.sendEnabled), e1.valid, e1.pos, e1.enough, ?_, ?_,
    e1.supply ▸ hsup, ?_, ?_, h5, h6, ⟨e0, h7, h8, h9⟩⟩
  · show bank3.bal snd d = _
    rw [hbal, if_neg (fun x => hs x.1), e1.src]
  · intro a e hne
    show bank3.bal a e = _
    rw [hbal]
    by_cases hm : a = moduleAddr ∧ e = d
    · rw [if_pos hm, hm.1, hm.2, e1.dst]; exact Nat.add_sub_cancel _ _
    · rw [if_neg hm]; exact e1.frame a e hne hm
  · show bank3.supply d = _
    rw [hsupply, if_pos rfl, e1.supply]
  · intro e he
    show bank3.supply e = _
    rw [hsupply, if_neg he, e1.supply]

/-- case 1.2: tokens burned, coins released from escrow. -/
structure ERC20ViaModule (B : Addr → Behaviour σ) (w w' : World σ) (q : Pair) (d : Denom) (amt : Nat) (recv snd : Addr)
    (st : σ) (t0 : Nat) : Prop where
  call : ∃ v ap, (B q.addr).burnCoins (w.tok q.addr) moduleAddr snd amt = .ret st v ap
  reg : SameRegistry w w' q.addr st
  notBlocked : w.bank.blocked recv = false
  bank : SendEffect w.bank w'.bank moduleAddr recv d amt
  sndEnough : amt ≤ t0
  sndBefore : balOf B w q.addr snd = some t0
  sndAfter : balOf B w' q.addr snd = some (t0 - amt)

/-- case 2.1: tokens escrowed by the module, vouchers minted. -/
structure ERC20ViaExternal (B : Addr → Behaviour σ) (w w' : World σ) (q : Pair) (d : Denom) (amt : Nat) (recv snd : Addr)
    (st : σ) (t0 : Nat) : Prop where
  call : (B q.addr).transfer (w.tok q.addr) snd moduleAddr amt = .ret st (some true) false
  reg : SameRegistry w w' q.addr st
  valid : validDenom d = true
  pos : 0 < amt
  notBlocked : w.bank.blocked recv = false
  dst : w'.bank.bal recv d = w.bank.bal recv d + amt
  frame : ∀ a e, ¬(a = recv ∧ e = d) → w'.bank.bal a e = w.bank.bal a e
  supply : w'.bank.supply d = w.bank.supply d + amt
  supplyFrame : ∀ e, e ≠ d → w'.bank.supply e = w.bank.supply e
  escrowBefore : balOf B w q.addr moduleAddr = some t0
  escrowAfter : balOf B w' q.addr moduleAddr = some (t0 + amt)

theorem erc20ViaModule_of {q : Pair}
    (h : convertERC20NativeCoin B w q d amt recv snd = .ok w') (hb : w.bank.blocked moduleAddr = true) :
    ∃ st t0, ERC20ViaModule B w w' q d amt recv snd st t0 := by
  obtain ⟨st, v, ap, bank2, t0, h1, h2, rfl, h5, h6, h7⟩ := erc20NativeCoin_ok h
  obtain ⟨hnb, hsend⟩ := Bank.sendFromModule_ok h2
  have e1 := Bank.send_effect hsend (ne_of_blocked hb hnb).symm
  exact ⟨st, t0, ⟨v, ap, h1⟩, .of_setTok e1.blocked e1.sendEnabled, hnb, e1, h5, h6, h7⟩

theorem erc20ViaExternal_of {q : Pair}
    (h : convertERC20NativeToken B w q d amt recv snd = .ok w') (hb : w.bank.blocked moduleAddr = true) :
    ∃ st t0, ERC20ViaExternal B w w' q d amt recv snd st t0 := by
  obtain ⟨st, bank2, bank3, t0, h1, h2, h3, rfl, h6, h7⟩ := erc20NativeToken_ok h
  obtain ⟨hv, hp, hbal, hsupply, hbl, hse⟩ := Bank.mint_ok h2
  obtain ⟨hnb, hsend⟩ := Bank.sendFromModule_ok h3
  rw [hbl] at hnb
  have hne := (ne_of_blocked hb hnb).symm
  have e1 := Bank.send_effect hsend hne
  -- the send out of the module undoes the mint's credit
  refine ⟨st, t0, h1, .of_setTok (e1.blocked.trans hbl) (e1.sendEnabled.trans hse), hv, hp, hnb, ?_, ?_, ?_, ?_, h6, h7⟩
  · show bank3.bal recv d = _
    rw [e1.dst, hbal, if_neg (fun x => hne x.1.symm)]
  · intro a e hne2
    show bank3.bal a e = _
    by_cases hm : a = moduleAddr ∧ e = d
    · rw [hm.1, hm.2, e1.src, hbal, if_pos ⟨rfl, rfl⟩]; exact Nat.add_sub_cancel _ _
    · rw [e1.frame a e hm hne2, hbal, if_neg hm]
  · show bank3.supply d = _
    rw [e1.supply, hsupply, if_pos rfl]
  · intro e he
    show bank3.supply e = _
    rw [e1.supply, hsupply, if_neg he]

theorem handleCoin_exact (hh : handleCoin B w d amt recv snd = .ok (w', false)) (hsm : snd ≠ moduleAddr) :
    ∃ j q st b0, Gate w d d j q recv ∧ w.code q.addr = true ∧
      ((q.owner = .module ∧ CoinViaModule B w w' q d amt recv snd st b0) ∨
       (q.owner = .external ∧ CoinViaExternal B w w' q d amt recv snd st b0)) := by
  obtain ⟨j, q, g, hd⟩ := handleCoin_ok hh
  cases hd with
  | clean hcl _ _ => cases hcl
  | viaModule _ hcode hown hp =>
    obtain ⟨st, b0, e⟩ := coinViaModule_of hp hsm
    exact ⟨j, q, st, b0, g, hcode, Or.inl ⟨hown, e⟩⟩
  | viaExternal _ hcode hown hp =>
    obtain ⟨st, b0, e⟩ := coinViaExternal_of hp hsm
    exact ⟨j, q, st, b0, g, hcode, Or.inr ⟨hown, e⟩⟩

theorem handleERC20_exact {c : String}
    (hh : handleERC20 B w c d amt recv snd = .ok (w', false)) (hb : w.bank.blocked moduleAddr = true) :
    ∃ j q st t0, Gate w c d j q recv ∧ w.code q.addr = true ∧
      ((q.owner = .module ∧ ERC20ViaModule B w w' q d amt recv snd st t0) ∨
       (q.owner = .external ∧ ERC20ViaExternal B w w' q d amt recv snd st t0)) := by
  obtain ⟨j, q, g, hd⟩ := handleERC20_ok hh
  cases hd with
  | clean hcl _ _ => cases hcl
  | viaModule _ hcode hown hp =>
    obtain ⟨st, t0, e⟩ := erc20ViaModule_of hp hb
    exact ⟨j, q, st, t0, g, hcode, Or.inl ⟨hown, e⟩⟩
  | viaExternal _ hcode hown hp =>
    obtain ⟨st, t0, e⟩ := erc20ViaExternal_of hp hb
    exact ⟨j, q, st, t0, g, hcode, Or.inr ⟨hown, e⟩⟩

theorem Handled.cleaned {q : Pair} {j : Id} {m e : Outcome (World σ)} (hw : WellFormed w)
    (hq : w.pairs j = some q) (hd : Handled w w' q true m e) :
    w.code q.addr = false ∧ w.deletePair q = some w' ∧ w'.bank = w.bank ∧ w'.tok = w.tok ∧ w'.pairs j = none := by
  cases hd with
  | clean _ hcode hdel =>
    obtain ⟨⟨_, _, hb, ht⟩, hn⟩ := deletePair_wf hw hq hdel
    exact ⟨hcode, hdel, hb, ht, hn⟩
  | viaModule hcl _ _ _ => cases hcl
  | viaExternal hcl _ _ _ => cases hcl

end

/-- A rejected (or panicking) `MsgConvertCoin` writes nothing. -/
theorem coin_rejected_unchanged {B : Addr → Behaviour σ} {w w' : World σ} {m : MsgCoin} {r : Res}
    (h : deliverCoin B w m = (w', r)) (hr : r ≠ .converted ∧ r ≠ .cleaned) : w' = w := by
  rcases deliverCoin_cases h with ⟨h1, _⟩ | ⟨s, cl, _, _, _, h4⟩
  · exact h1
  · cases cl <;> simp [h4] at hr

theorem erc20_rejected_unchanged {B : Addr → Behaviour σ} {w w' : World σ} {m : MsgERC20} {r : Res}
    (h : deliverERC20 B w m = (w', r)) (hr : r ≠ .converted ∧ r ≠ .cleaned) : w' = w := by
  rcases deliverERC20_cases h with ⟨h1, _⟩ | ⟨s, cl, _, _, _, h4⟩
  · exact h1
  · cases cl <;> simp [h4] at hr

/-- An accepted `MsgConvertCoin` (signed by an ordinary account): the sender loses exactly `amount` coins of
`m.denom`, the receiver's reported token balance rises by exactly `amount`, nothing else in the bank moves
(`CoinViaModule` / `CoinViaExternal` list every component), for ANY token behaviour. -/
theorem coin_exact {B : Addr → Behaviour σ} {w w' : World σ} {m : MsgCoin} (hw : WellFormed w)
    (h : deliverCoin B w m = (w', .converted)) (hs : m.senderAddr ≠ some moduleAddr) :
    ∃ s j q st b0, m.senderAddr = some s ∧ 0 < m.amount ∧ Gate w m.denom m.denom j q (hexToAddr m.receiver) ∧
      w.code q.addr = true ∧
      ((q.owner = .module ∧ CoinViaModule B w w' q m.denom m.amount.toNat (hexToAddr m.receiver) s st b0) ∨
       (q.owner = .external ∧ CoinViaExternal B w w' q m.denom m.amount.toNat (hexToAddr m.receiver) s st b0)) := by
  rcases deliverCoin_cases h with ⟨_, ⟨c, h2⟩ | h2⟩ | ⟨s, cl, hpos, hsd, hh, hr⟩
  · cases h2
  · cases h2
  · cases cl
    · obtain ⟨j, q, st, b0, hx⟩ := handleCoin_exact hh (fun e => hs (by rw [hsd, e]))
      exact ⟨s, j, q, st, b0, hsd, hpos, hx⟩
    · cases hr

/-- An accepted `MsgConvertERC20`: the receiver gains exactly `amount` coins of `m.denom`; on a module-owned pair
the sender's reported token balance falls by exactly `amount` and the coins leave the escrow; on an external pair
the module's reported token balance rises by exactly `amount` and exactly `amount` vouchers are minted. -/
theorem erc20_exact {B : Addr → Behaviour σ} {w w' : World σ} {m : MsgERC20} (hw : WellFormed w)
    (h : deliverERC20 B w m = (w', .converted)) :
    ∃ rc j q st t0, m.receiverAddr = some rc ∧ 0 < m.amount ∧ Gate w m.contract m.denom j q rc ∧
      w.code q.addr = true ∧
      ((q.owner = .module ∧ ERC20ViaModule B w w' q m.denom m.amount.toNat rc (hexToAddr m.sender) st t0) ∨
       (q.owner = .external ∧ ERC20ViaExternal B w w' q m.denom m.amount.toNat rc (hexToAddr m.sender) st t0)) := by
  rcases deliverERC20_cases h with ⟨_, ⟨c, h2⟩ | h2⟩ | ⟨rc, cl, hpos, hsd, hh, hr⟩
  · cases h2
  · cases h2
  · cases cl
    · obtain ⟨j, q, st, t0, hx⟩ := handleERC20_exact hh hw.module_blocked
      exact ⟨rc, j, q, st, t0, hsd, hpos, hx⟩
    · cases hr

/-- The clean-up branch (contract without code): only the registry entry goes; bank and tokens are untouched. -/
theorem coin_cleaned {B : Addr → Behaviour σ} {w w' : World σ} {m : MsgCoin} (hw : WellFormed w)
    (h : deliverCoin B w m = (w', .cleaned)) :
    ∃ j q, Gate w m.denom m.denom j q (hexToAddr m.receiver) ∧ w.code q.addr = false ∧ w.deletePair q = some w' ∧
      w'.bank = w.bank ∧ w'.tok = w.tok ∧ w'.pairs j = none := by
  rcases deliverCoin_cases h with ⟨_, ⟨c, h2⟩ | h2⟩ | ⟨s, cl, _, _, hh, hr⟩
  · cases h2
  · cases h2
  · cases cl
    · cases hr
    · obtain ⟨j, q, g, hd⟩ := handleCoin_ok hh
      exact ⟨j, q, g, hd.cleaned hw g.pair⟩

theorem erc20_cleaned {B : Addr → Behaviour σ} {w w' : World σ} {m : MsgERC20} (hw : WellFormed w)
    (h : deliverERC20 B w m = (w', .cleaned)) :
    ∃ rc j q, m.receiverAddr = some rc ∧ Gate w m.contract m.denom j q rc ∧ w.code q.addr = false ∧
      w.deletePair q = some w' ∧ w'.bank = w.bank ∧ w'.tok = w.tok ∧ w'.pairs j = none := by
  rcases deliverERC20_cases h with ⟨_, ⟨c, h2⟩ | h2⟩ | ⟨rc, cl, _, hsd, hh, hr⟩
  · cases h2
  · cases h2
  · cases cl
    · cases hr
    · obtain ⟨j, q, g, hd⟩ := handleERC20_ok hh
      exact ⟨rc, j, q, hsd, g, hd.cleaned hw g.pair⟩

theorem accAddressFromBech32_some {r : Option Bech32} {a : Addr} (h : accAddressFromBech32 r = some a) :
    ∃ b, r = some b ∧ b.hrp = chainPrefix ∧ b.bytes = a := by
  unfold accAddressFromBech32 at h
  split at h
  · cases h
  · rename_i b
    split at h
    · rename_i hc
      injection h with h
      exact ⟨b, rfl, hc.1, h⟩
    · cases h

/-- An accepted `MsgConvertERC20` pays out to exactly the account whose bytes a prefix-agnostic bech32 decode of the
receiver string yields (and that string carries the chain's prefix). This rests on stage 1 (`ValidateBasic` enforcing
the chain prefix): the handler itself drops the parse error and would pay to the EMPTY address. -/
theorem convert_receiver_named {B : Addr → Behaviour σ} {w w' : World σ} {m : MsgERC20} (hw : WellFormed w)
    (h : deliverERC20 B w m = (w', .converted)) :
    ∃ b j q st t0, m.receiver = some b ∧ b.hrp = chainPrefix ∧ Gate w m.contract m.denom j q b.bytes ∧
      ((q.owner = .module ∧ ERC20ViaModule B w w' q m.denom m.amount.toNat b.bytes (hexToAddr m.sender) st t0) ∨
       (q.owner = .external ∧ ERC20ViaExternal B w w' q m.denom m.amount.toNat b.bytes (hexToAddr m.sender) st t0)) := by
  obtain ⟨rc, j, q, st, t0, hr, _, g, _, hor⟩ := erc20_exact hw h
  obtain ⟨b, hb, hp, rfl⟩ := accAddressFromBech32_some hr
  exact ⟨b, j, q, st, t0, hb, hp, g, hor⟩

/-- An accepted `MsgConvertCoin` takes the coins from exactly the account named (bech32, chain prefix) as sender. -/
theorem convert_sender_named {B : Addr → Behaviour σ} {w w' : World σ} {m : MsgCoin} (hw : WellFormed w)
    (h : deliverCoin B w m = (w', .converted)) (hs : m.senderAddr ≠ some moduleAddr) :
    ∃ b j q st b0, m.sender = some b ∧ b.hrp = chainPrefix ∧
      ((q.owner = .module ∧ CoinViaModule B w w' q m.denom m.amount.toNat (hexToAddr m.receiver) b.bytes st b0) ∨
       (q.owner = .external ∧ CoinViaExternal B w w' q m.denom m.amount.toNat (hexToAddr m.receiver) b.bytes st b0)) ∧
      w.pairs j = some q := by
  obtain ⟨s, j, q, st, b0, hr, _, g, _, hor⟩ := coin_exact hw h hs
  obtain ⟨b, hb, hp, rfl⟩ := accAddressFromBech32_some hr
  exact ⟨b, j, q, st, b0, hb, hp, hor, g.pair⟩

/-- Without stage 1 the handler is not safe: a receiver string of a foreign prefix reaches it as the empty address. -/
theorem handler_drops_foreign_prefix (b : Bech32) (h : b.hrp ≠ chainPrefix) : handlerAddr (some b) = "" := by
  simp [handlerAddr, accAddressFromBech32, h]

/-- what the transfer application alone does to the bank -/
structure CreditEffect (b b' : Bank) (recv : Addr) (v : Denom) (amt : Nat) : Prop where
  valid : validDenom v = true
  pos : 0 < amt
  notBlocked : b.blocked recv = false
  dst : b'.bal recv v = b.bal recv v + amt
  frame : ∀ a e, ¬(a = recv ∧ e = v) → b'.bal a e = b.bal a e
  supply : b'.supply v = b.supply v + amt
  supplyFrame : ∀ e, e ≠ v → b'.supply e = b.supply e
  blocked : b'.blocked = b.blocked
  sendEnabled : b'.sendEnabled = b.sendEnabled

theorem Bank.ibcCredit_ok {b b' : Bank} {recv : Addr} {v : Denom} {amt : Nat} (h : b.ibcCredit recv v amt = .ok b') :
    CreditEffect b b' recv v amt := by
  simp only [Bank.ibcCredit, ite_err_eq_ok, ite_panic_eq_ok] at h
  obtain ⟨h1, _, h3, _, h⟩ := h
  cases h
  simp only [Bool.not_eq_true', Bool.not_eq_false, Bool.and_eq_true, decide_eq_true_eq] at h1
  refine ⟨h1.1, h1.2, Bool.eq_false_iff.mpr h3, ?_, fun a e hne => ?_, ?_, fun e he => ?_, ?_, ?_⟩
  · rw [Bank.setSupply_bal, Bank.setBal_bal, if_pos ⟨rfl, rfl⟩]
  · rw [Bank.setSupply_bal, Bank.setBal_bal, if_neg hne]
  · rw [Bank.setSupply_supply, if_pos rfl]
  · rw [Bank.setSupply_supply, if_neg he, Bank.setBal_supply]
  · rw [Bank.setSupply_blocked, Bank.setBal_blocked]
  · rw [Bank.setSupply_sendEnabled, Bank.setBal_sendEnabled]

theorem hookConvert_cases {B : Addr → Behaviour σ} {w1 w2 : World σ} {recv : Addr} {v : Denom} {amt : Nat} {r : IcsRes}
    (h : hookConvert B w1 recv v amt = some (w2, r)) :
    (r = .kept ∧ w2 = w1) ∨
    ∃ cl, handleCoin B w1 v amt recv recv = .ok (w2, cl) ∧ r = (if cl then .cleaned else .converted) := by
  unfold hookConvert at h
  split at h
  · cases h; exact Or.inl ⟨rfl, rfl⟩
  · split at h
    · rename_i hh; cases h; exact Or.inr ⟨false, hh, rfl⟩
    · rename_i hh; cases h; exact Or.inr ⟨true, hh, rfl⟩
    · cases h; exact Or.inl ⟨rfl, rfl⟩
    · cases h

/-- `hookConvert` is atomic: when it does not convert (denomination not registered, or `ConvertCoin` returned an
error) the state is exactly the state it started from. -/
theorem hookConvert_kept {B : Addr → Behaviour σ} {w1 w2 : World σ} {recv : Addr} {v : Denom} {amt : Nat}
    (h : hookConvert B w1 recv v amt = some (w2, .kept)) : w2 = w1 := by
  rcases hookConvert_cases h with ⟨_, h⟩ | ⟨cl, _, h⟩
  · exact h
  · cases cl <;> cases h

theorem ics20_cases {B : Addr → Behaviour σ} {w w' : World σ} {p : IcsPacket} {r : IcsRes}
    (h : ics20Recv B w p = (w', r)) :
    (w' = w ∧ (r = .errAck ∨ r = .panicked)) ∨
    ∃ recv b1, p.receiver = some recv ∧ CreditEffect w.bank b1 recv p.voucher p.amount.toNat ∧
      ((r = .kept ∧ w' = afterTransfer w b1) ∨
       ∃ cl, handleCoin B (afterTransfer w b1) p.voucher p.amount.toNat recv recv = .ok (w', cl) ∧
         r = (if cl then .cleaned else .converted)) := by
  unfold ics20Recv at h
  rcases ite_eq_cases.mp h with ⟨_, h⟩ | ⟨_, h⟩
  · cases h; exact Or.inl ⟨rfl, Or.inl rfl⟩
  split at h
  · cases h; exact Or.inl ⟨rfl, Or.inl rfl⟩
  rename_i recv hrecv
  split at h
  · cases h; exact Or.inl ⟨rfl, Or.inl rfl⟩
  · cases h; exact Or.inl ⟨rfl, Or.inr rfl⟩
  rename_i b1 hb1
  split at h
  · cases h; exact Or.inl ⟨rfl, Or.inr rfl⟩
  · rename_i x hx
    subst h
    exact Or.inr ⟨recv, b1, hrecv, Bank.ibcCredit_ok hb1, hookConvert_cases hx⟩

theorem ics20Recv_keeps {B : Addr → Behaviour σ} {w : World σ} {p : IcsPacket} {P : World σ → Prop} (hw : P w)
    (hcredit : ∀ recv b1, CreditEffect w.bank b1 recv p.voucher p.amount.toNat → P (afterTransfer w b1))
    (hconv : ∀ recv b1 w' cl, CreditEffect w.bank b1 recv p.voucher p.amount.toNat → P (afterTransfer w b1) →
      handleCoin B (afterTransfer w b1) p.voucher p.amount.toNat recv recv = .ok (w', cl) → P w') :
    P (ics20Recv B w p).1 := by
  cases hr : ics20Recv B w p with
  | mk w' r =>
    rcases ics20_cases hr with ⟨h1, _⟩ | ⟨recv, b1, _, ce, ⟨_, h1⟩ | ⟨cl, hh, _⟩⟩
    · rw [h1]; exact hw
    · rw [h1]; exact hcredit recv b1 ce
    · exact hconv recv b1 w' cl ce (hcredit recv b1 ce) hh

/-- An error acknowledgement or a panic: nothing is written. -/
theorem hook_errack_unchanged {B : Addr → Behaviour σ} {w w' : World σ} {p : IcsPacket} {r : IcsRes}
    (h : ics20Recv B w p = (w', r)) (hr : r = .errAck ∨ r = .panicked) : w' = w := by
  rcases ics20_cases h with ⟨h1, _⟩ | ⟨_, _, _, _, ⟨h1, _⟩ | ⟨cl, _, h1⟩⟩
  · exact h1
  · subst h1; rcases hr with hr | hr <;> cases hr
  · subst h1; cases cl <;> rcases hr with hr | hr <;> cases hr

/-- **A failed (or not attempted) hook conversion leaves exactly the state of the transfer application**: the
receiver holds the vouchers, nothing is escrowed, no token moved. -/
theorem hook_failed_keeps_transfer {B : Addr → Behaviour σ} {w w' : World σ} {p : IcsPacket}
    (h : ics20Recv B w p = (w', .kept)) :
    ∃ recv b1, p.receiver = some recv ∧ CreditEffect w.bank b1 recv p.voucher p.amount.toNat ∧
      w' = afterTransfer w b1 := by
  rcases ics20_cases h with ⟨_, h2⟩ | ⟨recv, b1, hr, ce, ⟨_, h1⟩ | ⟨cl, _, h1⟩⟩
  · rcases h2 with h2 | h2 <;> cases h2
  · exact ⟨recv, b1, hr, ce, h1⟩
  · cases cl <;> cases h1

/-- **A successful hook conversion moves the exact amount**: from the state the transfer application left, the
receiver's vouchers (exactly `amount`) go to escrow / are burned and its reported token balance rises by exactly
`amount` (`CoinViaModule` / `CoinViaExternal` with sender = receiver), for ANY token behaviour. -/
theorem hook_converted_exact {B : Addr → Behaviour σ} {w w' : World σ} {p : IcsPacket} (hw : WellFormed w)
    (h : ics20Recv B w p = (w', .converted)) :
    ∃ recv b1 j q st b0, p.receiver = some recv ∧ CreditEffect w.bank b1 recv p.voucher p.amount.toNat ∧
      Gate (afterTransfer w b1) p.voucher p.voucher j q recv ∧
      ((q.owner = .module ∧ CoinViaModule B (afterTransfer w b1) w' q p.voucher p.amount.toNat recv recv st b0) ∨
       (q.owner = .external ∧ CoinViaExternal B (afterTransfer w b1) w' q p.voucher p.amount.toNat recv recv st b0)) := by
  rcases ics20_cases h with ⟨_, h2⟩ | ⟨recv, b1, hr, ce, ⟨h1, _⟩ | ⟨cl, hh, h1⟩⟩
  · rcases h2 with h2 | h2 <;> cases h2
  · cases h1
  · cases cl
    · obtain ⟨j, q, st, b0, g, _, hor⟩ := handleCoin_exact hh (ne_of_blocked hw.module_blocked ce.notBlocked)
      exact ⟨recv, b1, j, q, st, b0, hr, ce, g, hor⟩
    · cases h1

section
variable {B : Addr → Behaviour σ} {w w' : World σ} {d : Denom} {amt : Nat} {recv snd : Addr}

theorem GateShut.of_disabled {token : String} {i : Id} {p : Pair} (hi : w.pairId token = some i)
    (hp : w.pairs i = some p) (hd : p.enabled = false) : GateShut w token :=
  Or.inr ⟨i, hi, fun q hq => by rw [hp] at hq; cases hq; exact hd⟩

theorem handleCoin_refuses
    (hg : GateShut w d ∨ w.bank.blocked recv = true) : ∃ c, handleCoin B w d amt recv snd = .err c := by
  obtain ⟨c, hc⟩ := mintingEnabled_refuses (s := snd) (denom := d) hg
  exact ⟨c, by simp [handleCoin, hc]⟩

theorem deliverCoin_refuses {m : MsgCoin}
    (hg : GateShut w m.denom ∨ w.bank.blocked (hexToAddr m.receiver) = true) :
    ∃ c, deliverCoin B w m = (w, .rejected c) := by
  unfold deliverCoin
  cases m.validateBasic
  · exact ⟨_, rfl⟩
  · obtain ⟨c, hc⟩ := handleCoin_refuses (B := B) (amt := m.amount.toNat) (snd := handlerAddr m.sender) hg
    exact ⟨c, by simp [hc, finish]⟩

theorem deliverERC20_refuses {m : MsgERC20}
    (hg : GateShut w m.contract ∨ w.bank.blocked (handlerAddr m.receiver) = true) :
    ∃ c, deliverERC20 B w m = (w, .rejected c) := by
  unfold deliverERC20
  cases m.validateBasic
  · exact ⟨_, rfl⟩
  · obtain ⟨c, hc⟩ := mintingEnabled_refuses (s := hexToAddr m.sender) (denom := m.denom) hg
    exact ⟨c, by simp [handleERC20, hc, finish]⟩

theorem ics20Recv_refuses {pk : IcsPacket} (hg : GateShut w pk.voucher) :
    (ics20Recv B w pk).2 ≠ .converted ∧ (ics20Recv B w pk).2 ≠ .cleaned := by
  cases hr : ics20Recv B w pk with
  | mk w' r =>
    rcases ics20_cases hr with ⟨_, h | h⟩ | ⟨recv, b1, _, _, ⟨h, _⟩ | ⟨cl, hh, _⟩⟩
    · subst h; exact ⟨by simp, by simp⟩
    · subst h; exact ⟨by simp, by simp⟩
    · subst h; exact ⟨by simp, by simp⟩
    · -- the transfer application's credit changes the bank only, nothing the gate reads
      obtain ⟨c, hc⟩ := handleCoin_refuses (B := B) (w := afterTransfer w b1) (amt := pk.amount.toNat) (recv := recv)
        (snd := recv) (Or.inl hg)
      rw [hc] at hh; cases hh

end

/-- Module disabled, pair disabled, or blocked receiver ⇒ `MsgConvertCoin` is rejected and nothing is written. -/
theorem gated_coin {B : Addr → Behaviour σ} {w : World σ} {m : MsgCoin}
    (hg : w.enabled = false ∨ (∃ i p, w.pairId m.denom = some i ∧ w.pairs i = some p ∧ p.enabled = false) ∨
          w.bank.blocked (hexToAddr m.receiver) = true) :
    ∃ c, deliverCoin B w m = (w, .rejected c) := by
  refine deliverCoin_refuses ?_
  rcases hg with h | ⟨i, p, hi, hp, hd⟩ | h
  · exact Or.inl (Or.inl h)
  · exact Or.inl (.of_disabled hi hp hd)
  · exact Or.inr h

/-- The same for `MsgConvertERC20` (the pair is the one the contract address resolves to). -/
theorem gated_erc20 {B : Addr → Behaviour σ} {w : World σ} {m : MsgERC20}
    (hg : w.enabled = false ∨ (∃ i p, w.pairId m.contract = some i ∧ w.pairs i = some p ∧ p.enabled = false) ∨
          (∃ rc, m.receiverAddr = some rc ∧ w.bank.blocked rc = true)) :
    ∃ c, deliverERC20 B w m = (w, .rejected c) := by
  refine deliverERC20_refuses ?_
  rcases hg with h | ⟨i, p, hi, hp, hd⟩ | ⟨rc, h1, h2⟩
  · exact Or.inl (Or.inl h)
  · exact Or.inl (.of_disabled hi hp hd)
  · exact Or.inr (by rw [handlerAddr_of_some h1]; exact h2)

/-- Non-positive amounts never get past `ValidateBasic`. -/
theorem nonpositive_rejected_coin {B : Addr → Behaviour σ} {w : World σ} {m : MsgCoin} (h : m.amount ≤ 0) :
    deliverCoin B w m = (w, .rejected "basic") := by
  have : m.validateBasic = false := by
    simp [MsgCoin.validateBasic]; exact fun _ h2 => absurd h2 (Int.not_lt.mpr h)
  simp [deliverCoin, this]

theorem nonpositive_rejected_erc20 {B : Addr → Behaviour σ} {w : World σ} {m : MsgERC20} (h : m.amount ≤ 0) :
    deliverERC20 B w m = (w, .rejected "basic") := by
  have : m.validateBasic = false := by
    simp [MsgERC20.validateBasic]; exact fun _ h2 => absurd h2 (Int.not_lt.mpr h)
  simp [deliverERC20, this]

/-- coins of the pair's denominations held by the module account -/
def escrow (w : World σ) (p : Pair) : Nat := sumMap p.denoms (fun d => w.bank.bal moduleAddr d)

/-- What is assumed of the contract behind a module-owned pair (it is deployed by `RegisterCoin` from the fixed
`ERC20MinterBurnerDecimals` byte code with the module as only minter/burner): the total supply moves only through
`mint` / `burnCoins` called by the module, by at most / at least the amount. -/
structure ModuleToken (Bc : Behaviour σ) : Prop where
  transfer_le : ∀ st c t a st' v ap, Bc.transfer st c t a = .ret st' v ap → Bc.totalSupply st' ≤ Bc.totalSupply st
  mint_module : ∀ st t a st' v ap, Bc.mint st moduleAddr t a = .ret st' v ap → Bc.totalSupply st' ≤ Bc.totalSupply st + a
  mint_other : ∀ st c t a st' v ap, c ≠ moduleAddr → Bc.mint st c t a = .ret st' v ap → Bc.totalSupply st' ≤ Bc.totalSupply st
  burn_module : ∀ st f a st' v ap, Bc.burnCoins st moduleAddr f a = .ret st' v ap → Bc.totalSupply st' + a ≤ Bc.totalSupply st
  burn_other : ∀ st c f a st' v ap, c ≠ moduleAddr → Bc.burnCoins st c f a = .ret st' v ap → Bc.totalSupply st' ≤ Bc.totalSupply st

/-- Nobody holds coins whose denomination merely *looks like* the address of a module-owned pair's contract
(`GetTokenPairID` would route such a denomination to that pair although the pair does not list it). -/
def NoAliasFunds (w : World σ) : Prop :=
  ∀ i p, w.pairs i = some p → p.owner = .module → ∀ d, w.pairId d = some i → d ∉ p.denoms → ∀ a, w.bank.bal a d = 0

/-- The invariant: every module-owned pair's ERC-20 supply is covered by the coins of its denominations in escrow. -/
structure ModInv (B : Addr → Behaviour σ) (w : World σ) : Prop where
  wf : WellFormed w
  noAlias : NoAliasFunds w
  tokens : ∀ i p, w.pairs i = some p → p.owner = .module → ModuleToken (B p.addr)
  backed : ∀ i p, w.pairs i = some p → p.owner = .module → (B p.addr).totalSupply (w.tok p.addr) ≤ escrow w p

/-- The actions the backing theorems admit: nothing is signed by the aggregate module account (it has no key), received
vouchers do not look like a hex address, and the registry is not rewritten by governance. -/
def Action.signed : Action → Prop
  | .coin m => m.senderAddr ≠ some moduleAddr
  | .ics20 p => isHexAddress p.voucher = false     -- IBC vouchers are `ibc/<hash>`
  | .userTransfer _ c _ _ => c ≠ moduleAddr
  | .userMint _ c _ _ => c ≠ moduleAddr
  | .userBurn _ c _ _ => c ≠ moduleAddr
  | .bankSend s _ _ _ => s ≠ moduleAddr
  -- governance operations that rewrite the registry are outside the backing theorems (registry: C12, taken as given)
  | .addCoin _ _ => False
  | .updateERC20 _ _ _ => False
  | _ => True

section
variable {B : Addr → Behaviour σ} {w w' : World σ} {d : Denom} {amt : Nat} {recv snd : Addr}

theorem ModInv.of_step (hI : ModInv B w) (hs : WellFormed w' ∧ Sub w w')
    (hzero : ∀ i p d, w.pairs i = some p → p.owner = .module → w.pairId d = some i → d ∉ p.denoms →
      ∀ a, w'.bank.bal a d = 0)
    (hback : ∀ i p, w.pairs i = some p → p.owner = .module →
      (B p.addr).totalSupply (w'.tok p.addr) + escrow w p ≤ (B p.addr).totalSupply (w.tok p.addr) + escrow w' p) :
    ModInv B w' := by
  refine ⟨hs.1, ?_, ?_, ?_⟩
  · intro i p' hp' ho d hd hnd a
    obtain ⟨p, hp, _, h2, h3⟩ := hs.2.pairs i p' hp'
    exact hzero i p d hp (h3 ▸ ho) (hs.2.pairId d i hd) (h2 ▸ hnd) a
  · intro i p' hp' ho
    obtain ⟨p, hp, h1, _, h3⟩ := hs.2.pairs i p' hp'
    rw [h1]; exact hI.tokens i p hp (h3 ▸ ho)
  · intro i p' hp' ho
    obtain ⟨p, hp, h1, h2, h3⟩ := hs.2.pairs i p' hp'
    have h := Nat.le_trans (hback i p hp (h3 ▸ ho)) (Nat.add_le_add_right (hI.backed i p hp (h3 ▸ ho)) _)
    rw [Nat.add_comm (escrow w p)] at h
    rw [h1, escrow, h2]
    exact Nat.le_of_add_le_add_right h

theorem ModInv.of_quiet (hI : ModInv B w) (hs : WellFormed w' ∧ Sub w w')
    (hbal : w'.bank.bal = w.bank.bal)
    (htok : ∀ i p, w.pairs i = some p → p.owner = .module →
      (B p.addr).totalSupply (w'.tok p.addr) ≤ (B p.addr).totalSupply (w.tok p.addr)) : ModInv B w' := by
  refine hI.of_step hs ?_ ?_
  · intro i p d hp ho hd hnd a
    rw [hbal]; exact hI.noAlias i p hp ho d hd hnd a
  · intro i p hp ho
    have he : escrow w' p = escrow w p := by simp [escrow, hbal]
    rw [he]; exact Nat.add_le_add_right (htok i p hp ho) _

theorem ModInv.of_tok (hI : ModInv B w) (tok' : Addr → σ) (ps : String → Bool) (cd : Addr → Bool) (se : Denom → Bool)
    (htok : ∀ i p, w.pairs i = some p → p.owner = .module →
      (B p.addr).totalSupply (tok' p.addr) ≤ (B p.addr).totalSupply (w.tok p.addr)) :
    ModInv B { w with tok := tok', params := ps, code := cd, bank := { w.bank with sendEnabled := se } } :=
  hI.of_quiet (hI.wf.of_registry_eq rfl rfl rfl rfl) rfl htok

theorem ModInv.of_same_funds (hI : ModInv B w)
    (h : WellFormed w' ∧ Sub w w' ∧ w'.bank = w.bank ∧ w'.tok = w.tok) : ModInv B w' :=
  hI.of_quiet ⟨h.1, h.2.1⟩ (by rw [h.2.2.1]) (fun _ _ _ _ => by rw [h.2.2.2]; exact Nat.le_refl _)

theorem ModInv.zero_of_frame (hI : ModInv B w)
    (hframe : ∀ a e, e ≠ d → w'.bank.bal a e = w.bank.bal a e)
    (hd : ∀ i p, w.pairs i = some p → p.owner = .module → w.pairId d = some i → d ∈ p.denoms) :
    ∀ i p d0, w.pairs i = some p → p.owner = .module → w.pairId d0 = some i → d0 ∉ p.denoms →
      ∀ a, w'.bank.bal a d0 = 0 := by
  intro i p d0 hp ho hd0 hnd a
  by_cases hdd : d0 = d
  · subst hdd; exact absurd (hd i p hp ho hd0) hnd
  · rw [hframe a d0 hdd]; exact hI.noAlias i p hp ho d0 hd0 hnd a

theorem ModInv.listed_of_pos (hI : ModInv B w) {x : Addr}
    (hx : 0 < w.bank.bal x d) :
    ∀ i p, w.pairs i = some p → p.owner = .module → w.pairId d = some i → d ∈ p.denoms := by
  intro i p hp ho hd
  apply Decidable.byContradiction
  intro hn
  exact absurd (hI.noAlias i p hp ho d hd hn x) (Nat.ne_of_gt hx)

theorem pairId_of_listed (hw : WellFormed w) {i : Id} {p : Pair} (hp : w.pairs i = some p)
    (hd : d ∈ p.denoms) : w.pairId d = some i := by
  unfold World.pairId
  rw [hw.not_hex i p hp d hd]
  simpa using hw.den_back i p hp d hd

theorem SameRegistry.wf_sub {c : Addr} {st : σ} (r : SameRegistry w w' c st) (hw : WellFormed w) :
    WellFormed w' ∧ Sub w w' := hw.of_registry_eq r.pairs r.byErc20 r.byDenom r.blocked

theorem SameRegistry.tok_ne {c : Addr} {st : σ} (r : SameRegistry w w' c st) {a : Addr} (h : a ≠ c) :
    w'.tok a = w.tok a := by rw [r.tok]; exact if_neg h

theorem SameRegistry.tok_eq {c : Addr} {st : σ} (r : SameRegistry w w' c st) : w'.tok c = st := by
  rw [r.tok]; exact if_pos rfl

theorem backed_other {p : Pair} (htok : w'.tok p.addr = w.tok p.addr)
    (hesc : ∀ x ∈ p.denoms, w.bank.bal moduleAddr x ≤ w'.bank.bal moduleAddr x) :
    (B p.addr).totalSupply (w'.tok p.addr) + escrow w p ≤ (B p.addr).totalSupply (w.tok p.addr) + escrow w' p := by
  rw [htok]
  exact Nat.add_le_add_left (sumMap_mono hesc) _

theorem modInv_viaModule {s t : Addr} {q : Pair} {j : Id} {st : σ} (hI : ModInv B w) (hq : w.pairs j = some q)
    (hqo : q.owner = .module) (hd : w.pairId d = some j) (r : SameRegistry w w' q.addr st)
    (e : SendEffect w.bank w'.bank s t d amt)
    (hsup : (B q.addr).totalSupply st + w.bank.bal moduleAddr d ≤
      (B q.addr).totalSupply (w.tok q.addr) + w'.bank.bal moduleAddr d) : ModInv B w' := by
  have hlisted := hI.listed_of_pos (Nat.lt_of_lt_of_le e.pos e.enough)
  have hframe : ∀ a x, x ≠ d → w'.bank.bal a x = w.bank.bal a x :=
    fun a x hx => e.frame a x (fun y => hx y.2) (fun y => hx y.2)
  refine hI.of_step (r.wf_sub hI.wf) (hI.zero_of_frame hframe hlisted) ?_
  intro i p hp ho
  by_cases hij : i = j
  · subst hij
    rw [hq] at hp; cases hp
    rw [r.tok_eq]
    have h2 : escrow w' q + w.bank.bal moduleAddr d = escrow w q + w'.bank.bal moduleAddr d :=
      sumMap_update (hI.wf.nodup i q hq) (hlisted i q hq hqo hd) (hframe moduleAddr)
    omega
  · refine backed_other (r.tok_ne (addr_ne_of_id_ne hI.wf hp hq hij)) (fun x hx => ?_)
    -- `d` resolves to the pair `j`, so the pair `i` does not list it
    have hxd : x ≠ d := by
      intro y; subst y
      have := pairId_of_listed hI.wf hp hx
      rw [hd] at this; cases this
      exact hij rfl
    exact Nat.le_of_eq (hframe moduleAddr x hxd).symm

theorem modInv_viaExternal {acct : Addr} {q : Pair} {j : Id} {st : σ} (hI : ModInv B w) (hq : w.pairs j = some q)
    (hqo : q.owner = .external) (r : SameRegistry w w' q.addr st) (hacct : acct ≠ moduleAddr)
    (hframe : ∀ a x, ¬(a = acct ∧ x = d) → w'.bank.bal a x = w.bank.bal a x)
    (hd : ∀ i p, w.pairs i = some p → p.owner = .module → w.pairId d = some i → d ∈ p.denoms) : ModInv B w' := by
  refine hI.of_step (r.wf_sub hI.wf) (hI.zero_of_frame (fun a x hx => hframe a x (fun y => hx y.2)) hd) ?_
  intro i p hp ho
  have hij : i ≠ j := by
    rintro rfl
    rw [hq] at hp; cases hp
    rw [hqo] at ho; cases ho
  exact backed_other (r.tok_ne (addr_ne_of_id_ne hI.wf hp hq hij))
    (fun x _ => Nat.le_of_eq (hframe moduleAddr x (fun y => hacct y.1.symm)).symm)

theorem modInv_handleCoin {cl : Bool} (hI : ModInv B w) (hsm : snd ≠ moduleAddr)
    (hh : handleCoin B w d amt recv snd = .ok (w', cl)) : ModInv B w' := by
  obtain ⟨j, q, g, hd⟩ := handleCoin_ok hh
  cases hd with
  | clean _ _ hdel => exact hI.of_same_funds (deletePair_wf hI.wf g.pair hdel).1
  | viaModule _ _ hown hp =>
    obtain ⟨st, b0, e⟩ := coinViaModule_of hp hsm
    obtain ⟨v, ap, hcall⟩ := e.call
    have h1 := (hI.tokens j q g.pair hown).mint_module _ _ _ _ _ _ hcall
    refine modInv_viaModule hI g.pair hown g.denomId e.reg e.bank ?_
    rw [e.bank.dst, ← Nat.add_assoc, Nat.add_right_comm]
    exact Nat.add_le_add_right h1 _
  | viaExternal _ _ hown hp =>
    obtain ⟨st, b0, e⟩ := coinViaExternal_of hp hsm
    exact modInv_viaExternal hI g.pair hown e.reg hsm e.frame (hI.listed_of_pos (Nat.lt_of_lt_of_le e.pos e.enough))

theorem modInv_erc20 {m : MsgERC20} (hI : ModInv B w) :
    ModInv B (deliverERC20 B w m).1 := by
  refine deliverERC20_keeps hI (fun rc w' cl hh => ?_)
  obtain ⟨j, q, g, hd⟩ := handleERC20_ok hh
  cases hd with
  | clean _ _ hdel => exact hI.of_same_funds (deletePair_wf hI.wf g.pair hdel).1
  | viaModule _ _ hown hp =>
    obtain ⟨st, t0, e⟩ := erc20ViaModule_of hp hI.wf.module_blocked
    obtain ⟨v, ap, hcall⟩ := e.call
    have h1 := (hI.tokens j q g.pair hown).burn_module _ _ _ _ _ _ hcall
    have h2 := e.bank.src
    have h3 := e.bank.enough
    exact modInv_viaModule hI g.pair hown g.denomId e.reg e.bank (by omega)
  | viaExternal _ _ hown hp =>
    obtain ⟨st, t0, e⟩ := erc20ViaExternal_of hp hI.wf.module_blocked
    refine modInv_viaExternal hI g.pair hown e.reg (ne_of_blocked hI.wf.module_blocked e.notBlocked) e.frame ?_
    intro i p hp ho hdi
    rw [g.denomId] at hdi; cases hdi
    rw [g.pair] at hp; cases hp
    rw [hown] at ho; cases ho

theorem modInv_call {c : Addr} {r : Call σ} (hI : ModInv B w)
    (hle : ModuleToken (B c) → ∀ st v ap, r = .ret st v ap → (B c).totalSupply st ≤ (B c).totalSupply (w.tok c)) :
    ModInv B (if w.code c then applyCall w c r else w) := by
  cases w.code c
  case false => exact hI
  show ModInv B (applyCall w c r)
  cases r with
  | revert => exact hI
  | ret st v ap =>
    refine hI.of_tok _ _ _ _ (fun i p hp ho => ?_)
    show (B p.addr).totalSupply (if p.addr = c then st else w.tok p.addr) ≤ _
    by_cases hpc : p.addr = c
    · rw [if_pos hpc, hpc]; exact hle (hpc ▸ hI.tokens i p hp ho) st v ap rfl
    · rw [if_neg hpc]; exact Nat.le_refl _

theorem modInv_bankSend {s t : Addr} (hI : ModInv B w)
    (hs : s ≠ moduleAddr) : ModInv B { w with bank := bankMsgSend w.bank s t d amt } := by
  unfold bankMsgSend
  cases hc : (!w.bank.sendEnabled d || w.bank.blocked t)
  case true => exact hI
  simp only [Bool.false_eq_true, if_false]
  simp only [Bool.or_eq_false_iff] at hc
  split
  · rename_i b' hsend
    obtain ⟨_, hp, hle, hf, _, _, hbl, _⟩ := Bank.send_ok hsend
    have htm := ne_of_blocked hI.wf.module_blocked hc.2
    refine hI.of_step (hI.wf.of_registry_eq rfl rfl rfl hbl)
      (hI.zero_of_frame (fun a x hx => hf a x (fun y => hx y.2) (fun y => hx y.2))
        (hI.listed_of_pos (Nat.lt_of_lt_of_le hp hle))) ?_
    exact fun i p _ _ => backed_other rfl
      (fun x _ => Nat.le_of_eq (hf moduleAddr x (fun y => hs y.1.symm) (fun y => htm y.1.symm)).symm)
  · exact hI

theorem modInv_credit {b1 : Bank} {recv : Addr} {v : Denom}
    (hI : ModInv B w) (ce : CreditEffect w.bank b1 recv v amt) (hv : isHexAddress v = false) :
    ModInv B (afterTransfer w b1) := by
  have hrm := ne_of_blocked hI.wf.module_blocked ce.notBlocked
  refine hI.of_step (hI.wf.of_registry_eq rfl rfl rfl ce.blocked)
    (hI.zero_of_frame (fun a x hx => ce.frame a x (fun y => hx y.2)) ?_) ?_
  · -- not hex-like, so resolved through the denomination index: listed
    intro i p hp ho hd
    have h1 : w.byDenom v = some i := by simpa [World.pairId, hv] using hd
    obtain ⟨p', hp', hin⟩ := hI.wf.den_ok v i h1
    rw [hp] at hp'; cases hp'
    exact hin
  · exact fun i p _ _ => backed_other rfl
      (fun x _ => Nat.le_of_eq (ce.frame moduleAddr x (fun y => hrm y.1.symm)).symm)

theorem modInv_ics20 {B : Addr → Behaviour σ} {w : World σ} {p : IcsPacket} (hI : ModInv B w)
    (hv : isHexAddress p.voucher = false) : ModInv B (ics20Recv B w p).1 :=
  ics20Recv_keeps hI (fun _ _ ce => modInv_credit hI ce hv)
    (fun _ _ _ _ ce hI1 hh => modInv_handleCoin hI1 (ne_of_blocked hI.wf.module_blocked ce.notBlocked) hh)

theorem modInv_step {a : Action} (hI : ModInv B w) (ha : a.signed) :
    ModInv B (step B w a) := by
  cases a with
  | coin m =>
    exact deliverCoin_keeps hI (fun _ _ _ hsd hh => modInv_handleCoin hI (fun e => ha (by rw [hsd, e])) hh)
  | erc20 m => exact modInv_erc20 hI
  | ics20 p => exact modInv_ics20 hI ha
  | userTransfer c caller to amt => exact modInv_call hI (fun T st v ap hr => T.transfer_le _ _ _ _ _ _ _ hr)
  | userMint c caller to amt => exact modInv_call hI (fun T st v ap hr => T.mint_other _ _ _ _ _ _ _ ha hr)
  | userBurn c caller fromA amt => exact modInv_call hI (fun T st v ap hr => T.burn_other _ _ _ _ _ _ _ ha hr)
  | bankSend s t d amt => exact modInv_bankSend hI ha
  | setEnabled _ | setParamByKey _ _ | setSendEnabled _ _ | selfdestruct _ => exact hI.of_tok _ _ _ _ (fun _ _ _ _ => Nat.le_refl _)
  | toggle t => exact hI.of_same_funds (toggle_wf hI.wf t)
  | restart => exact hI
  | addCoin _ _ | updateERC20 _ _ _ => exact ha.elim

end

theorem run_keeps {B : Addr → Behaviour σ} {P : World σ → Prop} {Q : Action → Prop}
    (hstep : ∀ w a, P w → Q a → P (step B w a)) {w : World σ} {as : List Action} (hw : P w) (ha : ∀ a ∈ as, Q a) :
    P (run B w as) := by
  induction as generalizing w with
  | nil => exact hw
  | cons a as ih => exact ih (hstep w a hw (ha a (by simp))) (fun b hb => ha b (by simp [hb]))

/-- **backed_module_pairs**: over arbitrary histories of conversions (any amounts, pairs, denominations, token
behaviours of the *other* contracts) interleaved with ICS-20 packets, user token calls, bank sends, parameter changes,
relay toggles, self-destructs and restarts, every module-owned pair's ERC-20 supply stays covered by the escrowed coins of its
denominations. -/
theorem backed_module_pairs {B : Addr → Behaviour σ} {w : World σ} {as : List Action} (hI : ModInv B w)
    (ha : ∀ a ∈ as, a.signed) : ModInv B (run B w as) :=
  run_keeps (fun _ _ => modInv_step) hI ha

/-- token balance the contract at `c` reports for the module account; 0 when the reading fails -/
def reportedBal (B : Addr → Behaviour σ) (w : World σ) (c : Addr) : Nat := (balOf B w c moduleAddr).getD 0

/-- the tokens escrowed at contract `c`, by the ghost ledger `E` of the token class (see `ExternalToken`) -/
def modBal (E : Addr → σ → Nat) (w : World σ) (c : Addr) : Nat := E c (w.tok c)

/-- What is assumed of an externally owned token for the backing invariant, relative to a ledger `esc` of what the
contract holds for the module (a ghost: the keeper never sees it):
  * a `balanceOf(module)` reading may FAIL (revert, undecodable return data) but never lies: when it answers, it
    answers `esc`;
  * calls by anybody but the module never lower `esc` (for `ERC20MinterBurnerDecimals`: the BURNER_ROLE holder does not
    burn the escrow).
Nothing is assumed about calls made by the module itself — the keeper's post-checks decide — nor about `transfer`'s
return data. Fee-taking, double-debiting, Approval-emitting tokens and the programmable token (failing view functions,
transfers without effect, …) all satisfy this. -/
structure ExternalToken (Bc : Behaviour σ) (esc : σ → Nat) : Prop where
  truthful : ∀ st m, Bc.balanceOf st moduleAddr = some m → m = esc st
  transfer_other : ∀ st c t a st' v ap, c ≠ moduleAddr → Bc.transfer st c t a = .ret st' v ap → esc st ≤ esc st'
  mint_other : ∀ st c t a st' v ap, c ≠ moduleAddr → Bc.mint st c t a = .ret st' v ap → esc st ≤ esc st'
  burn_other : ∀ st c f a st' v ap, c ≠ moduleAddr → Bc.burnCoins st c f a = .ret st' v ap → esc st ≤ esc st'

/-- The invariant for the external pairs whose contract is in the honest set `H`: the supply of *every* coin
denomination that resolves to the pair (the listed voucher and all hex-address-looking aliases together) is covered
by the tokens the module holds. -/
structure ExtInv (B : Addr → Behaviour σ) (H : Addr → Prop) (V : Denom → Prop) (E : Addr → σ → Nat)
    (w : World σ) : Prop where
  wf : WellFormed w
  /-- the tokens of the set `H` belong to the class `ExternalToken` with the ledger `E` -/
  tokens : ∀ a, H a → ExternalToken (B a) (E a)
  /-- `V` = the IBC voucher denominations received packets may carry: no honest external pair lists one of them
  ("a pair listing only that voucher": coins minted by somebody else than the aggregate module are not backed by
  escrowed tokens) -/
  noIbc : ∀ i p, w.pairs i = some p → p.owner = .external → H p.addr → ∀ d, V d → w.pairId d ≠ some i
  backed : ∀ i p, w.pairs i = some p → p.owner = .external → H p.addr →
    ∀ L : List Denom, L.Nodup → (∀ d ∈ L, w.pairId d = some i) → sumMap L w.bank.supply ≤ modBal E w p.addr

/-- received packets carry voucher denominations of the set `V` -/
def Action.icsIn (V : Denom → Prop) : Action → Prop
  | .ics20 p => V p.voucher
  | _ => True

section
variable {B : Addr → Behaviour σ} {H : Addr → Prop} {V : Denom → Prop} {E : Addr → σ → Nat} {w w' : World σ}
  {d : Denom} {amt : Nat} {recv snd : Addr}

theorem ExtInv.of_step (hI : ExtInv B H V E w) (hs : WellFormed w' ∧ Sub w w')
    (hback : ∀ i p, w.pairs i = some p → p.owner = .external → H p.addr →
      ∀ L : List Denom, L.Nodup → (∀ d ∈ L, w.pairId d = some i) → sumMap L w'.bank.supply ≤ modBal E w' p.addr) :
    ExtInv B H V E w' := by
  refine ⟨hs.1, hI.tokens, ?_, ?_⟩
  · intro i p' hp' ho hH d hd hid
    obtain ⟨p, hp, h1, _, h3⟩ := hs.2.pairs i p' hp'
    exact hI.noIbc i p hp (h3 ▸ ho) (h1 ▸ hH) d hd (hs.2.pairId d i hid)
  intro i p' hp' ho hH L hn hL
  obtain ⟨p, hp, h1, _, h3⟩ := hs.2.pairs i p' hp'
  rw [h1]
  exact hback i p hp (h3 ▸ ho) (h1 ▸ hH) L hn (fun d hd => hs.2.pairId d i (hL d hd))

theorem ExtInv.of_quiet (hI : ExtInv B H V E w) (hs : WellFormed w' ∧ Sub w w')
    (hsup : w'.bank.supply = w.bank.supply)
    (htok : ∀ i p, w.pairs i = some p → p.owner = .external → H p.addr → modBal E w p.addr ≤ modBal E w' p.addr) :
    ExtInv B H V E w' := by
  refine hI.of_step hs ?_
  intro i p hp ho hH L hn hL
  rw [hsup]
  exact Nat.le_trans (hI.backed i p hp ho hH L hn hL) (htok i p hp ho hH)

theorem ExtInv.of_tok (hI : ExtInv B H V E w) (tok' : Addr → σ) (ps : String → Bool) (cd : Addr → Bool)
    (bal : Addr → Denom → Nat) (se : Denom → Bool)
    (htok : ∀ i p, w.pairs i = some p → p.owner = .external → H p.addr → E p.addr (w.tok p.addr) ≤ E p.addr (tok' p.addr)) :
    ExtInv B H V E { w with tok := tok', params := ps, code := cd, bank := { w.bank with bal := bal, sendEnabled := se } } :=
  hI.of_quiet (hI.wf.of_registry_eq rfl rfl rfl rfl) rfl htok

theorem ExtInv.of_same_funds (hI : ExtInv B H V E w)
    (h : WellFormed w' ∧ Sub w w' ∧ w'.bank = w.bank ∧ w'.tok = w.tok) : ExtInv B H V E w' :=
  hI.of_quiet ⟨h.1, h.2.1⟩ (by rw [h.2.2.1])
    (fun _ _ _ _ _ => by rw [modBal, modBal, h.2.2.2]; exact Nat.le_refl _)

theorem ExtInv.of_conversion {j : Id} {q : Pair} {st : σ} (hI : ExtInv B H V E w)
    (r : SameRegistry w w' q.addr st) (hq : w.pairs j = some q) (hd : w.pairId d = some j)
    (hsup : ∀ e, e ≠ d → w'.bank.supply e = w.bank.supply e)
    (hmove : q.owner = .external → H q.addr →
      w'.bank.supply d + modBal E w q.addr ≤ w.bank.supply d + modBal E w' q.addr) : ExtInv B H V E w' := by
  refine hI.of_step (r.wf_sub hI.wf) ?_
  intro i p hp ho hHp L hn hL
  by_cases hij : i = j
  · subst hij
    rw [hq] at hp; cases hp
    have hm := hmove ho hHp
    by_cases hdL : d ∈ L
    · have h1 := sumMap_update hn hdL hsup
      have := hI.backed i q hq ho hHp L hn hL
      omega
    · -- `L` does not mention `d`: the invariant for `d :: L` pays for what `d` lost
      have h1 : sumMap L w'.bank.supply = sumMap L w.bank.supply :=
        sumMap_congr (fun x hx => hsup x (fun y => hdL (y ▸ hx)))
      have h2 := hI.backed i q hq ho hHp (d :: L) (List.nodup_cons.mpr ⟨hdL, hn⟩)
        (fun x hx => by
          rcases List.mem_cons.mp hx with h | h
          · rw [h]; exact hd
          · exact hL x h)
      rw [sumMap_cons] at h2
      omega
  · rw [modBal, r.tok_ne (addr_ne_of_id_ne hI.wf hp hq hij)]
    have h1 : sumMap L w'.bank.supply = sumMap L w.bank.supply := by
      apply sumMap_congr
      intro x hx
      apply hsup
      intro y; subst y
      have := hL _ hx
      rw [hd] at this; cases this
      exact hij rfl
    rw [h1]; exact hI.backed i p hp ho hHp L hn hL

theorem extInv_handleCoin {cl : Bool} (hI : ExtInv B H V E w) (hsm : snd ≠ moduleAddr)
    (hh : handleCoin B w d amt recv snd = .ok (w', cl)) : ExtInv B H V E w' := by
  obtain ⟨j, q, g, hd⟩ := handleCoin_ok hh
  cases hd with
  | clean _ _ hdel => exact hI.of_same_funds (deletePair_wf hI.wf g.pair hdel).1
  | viaModule _ _ hown hp =>
    obtain ⟨st, b0, e⟩ := coinViaModule_of hp hsm
    exact hI.of_conversion e.reg g.pair g.denomId (fun x _ => congrFun e.bank.supply x)
      (fun ho => by rw [hown] at ho; cases ho)
  | viaExternal _ _ hown hp =>
    obtain ⟨st, b0, e⟩ := coinViaExternal_of hp hsm
    refine hI.of_conversion e.reg g.pair g.denomId e.supplyFrame (fun _ hHq => ?_)
    obtain ⟨e0, h1, h2, h3⟩ := e.escrow
    have t1 := (hI.tokens _ hHq).truthful _ _ h2
    have t2 := (hI.tokens _ hHq).truthful _ _ h3
    have hs := e.supply
    have hse := e.supplyEnough
    simp only [modBal]
    omega

theorem extInv_credit {b1 : Bank} {v : Denom} (hI : ExtInv B H V E w)
    (ce : CreditEffect w.bank b1 recv v amt) (hv : V v) : ExtInv B H V E (afterTransfer w b1) := by
  refine hI.of_step (hI.wf.of_registry_eq rfl rfl rfl ce.blocked) ?_
  intro i p hp ho hHp L hn hL
  have h1 : sumMap L b1.supply = sumMap L w.bank.supply := by
    apply sumMap_congr
    intro x hx
    apply ce.supplyFrame
    intro y; subst y
    exact hI.noIbc i p hp ho hHp x hv (hL x hx)
  show sumMap L b1.supply ≤ modBal E w p.addr
  rw [h1]
  exact hI.backed i p hp ho hHp L hn hL

theorem extInv_ics20 {w : World σ} {p : IcsPacket} (hI : ExtInv B H V E w) (hv : V p.voucher) :
    ExtInv B H V E (ics20Recv B w p).1 :=
  ics20Recv_keeps hI (fun _ _ ce => extInv_credit hI ce hv)
    (fun _ _ _ _ ce hI1 hh => extInv_handleCoin hI1 (ne_of_blocked hI.wf.module_blocked ce.notBlocked) hh)

theorem extInv_erc20 {m : MsgERC20} (hI : ExtInv B H V E w) : ExtInv B H V E (deliverERC20 B w m).1 := by
  refine deliverERC20_keeps hI (fun rc w' cl hh => ?_)
  obtain ⟨j, q, g, hd⟩ := handleERC20_ok hh
  cases hd with
  | clean _ _ hdel => exact hI.of_same_funds (deletePair_wf hI.wf g.pair hdel).1
  | viaModule _ _ hown hp =>
    obtain ⟨st, t0, e⟩ := erc20ViaModule_of hp hI.wf.module_blocked
    exact hI.of_conversion e.reg g.pair g.denomId (fun x _ => congrFun e.bank.supply x)
      (fun ho => by rw [hown] at ho; cases ho)
  | viaExternal _ _ hown hp =>
    obtain ⟨st, t0, e⟩ := erc20ViaExternal_of hp hI.wf.module_blocked
    refine hI.of_conversion e.reg g.pair g.denomId e.supplyFrame (fun _ hHq => ?_)
    have h0 := (hI.tokens _ hHq).truthful _ _ e.escrowBefore
    have h1 := (hI.tokens _ hHq).truthful _ _ e.escrowAfter
    have hs := e.supply
    simp only [modBal]
    omega

theorem extInv_call {c : Addr} {r : Call σ} (hI : ExtInv B H V E w)
    (hle : ∀ st v ap, r = .ret st v ap → H c → E c (w.tok c) ≤ E c st) :
    ExtInv B H V E (if w.code c then applyCall w c r else w) := by
  cases w.code c
  case false => exact hI
  show ExtInv B H V E (applyCall w c r)
  cases r with
  | revert => exact hI
  | ret st v ap =>
    refine hI.of_tok _ _ _ _ _ (fun i p hp ho hHp => ?_)
    show E p.addr (w.tok p.addr) ≤ E p.addr (if p.addr = c then st else w.tok p.addr)
    by_cases hpc : p.addr = c
    · rw [if_pos hpc, hpc]; exact hle st v ap rfl (hpc ▸ hHp)
    · rw [if_neg hpc]; exact Nat.le_refl _

theorem extInv_step {a : Action} (hI : ExtInv B H V E w) (ha : a.signed) (hv : a.icsIn V) :
    ExtInv B H V E (step B w a) := by
  cases a with
  | coin m =>
    exact deliverCoin_keeps hI (fun _ _ _ hsd hh => extInv_handleCoin hI (fun e => ha (by rw [hsd, e])) hh)
  | erc20 m => exact extInv_erc20 hI
  | ics20 p => exact extInv_ics20 hI hv
  | userTransfer c caller to amt => exact extInv_call hI (fun st v ap hr hc => (hI.tokens c hc).transfer_other _ _ _ _ _ _ _ ha hr)
  | userMint c caller to amt => exact extInv_call hI (fun st v ap hr hc => (hI.tokens c hc).mint_other _ _ _ _ _ _ _ ha hr)
  | userBurn c caller fromA amt => exact extInv_call hI (fun st v ap hr hc => (hI.tokens c hc).burn_other _ _ _ _ _ _ _ ha hr)
  | bankSend s t d amt =>
    show ExtInv B H V E { w with bank := bankMsgSend w.bank s t d amt }
    unfold bankMsgSend
    split
    · exact hI
    · split
      · rename_i b' hsend
        obtain ⟨_, _, _, _, _, hsup, hbl, _⟩ := Bank.send_ok hsend
        exact hI.of_quiet (hI.wf.of_registry_eq rfl rfl rfl hbl) hsup
          (fun _ _ _ _ _ => Nat.le_refl _)
      · exact hI
  | setEnabled _ | setParamByKey _ _ | setSendEnabled _ _ | selfdestruct _ => exact hI.of_tok _ _ _ _ _ (fun _ _ _ _ _ => Nat.le_refl _)
  | toggle t => exact hI.of_same_funds (toggle_wf hI.wf t)
  | restart => exact hI
  | addCoin _ _ | updateERC20 _ _ _ => exact ha.elim

end

/-- **backed_external_pairs**: over arbitrary histories, for every external pair whose contract is in the class
`ExternalToken` (view functions may fail, transfers may misbehave, but a successful reading is truthful and nobody but
the module lowers the escrow), the supply of the voucher (and of every alias denomination, summed) never exceeds the
tokens escrowed for the module. Other pairs' contracts are arbitrary. -/
theorem backed_external_pairs {B : Addr → Behaviour σ} {H : Addr → Prop} {V : Denom → Prop} {E : Addr → σ → Nat} {w : World σ} {as : List Action}
    (hI : ExtInv B H V E w) (ha : ∀ a ∈ as, a.signed ∧ a.icsIn V) :
    ExtInv B H V E (run B w as) :=
  run_keeps (fun _ _ hI h => extInv_step hI h.1 h.2) hI ha

/-- the listed voucher alone -/
theorem voucher_backed {B : Addr → Behaviour σ} {H : Addr → Prop} {V : Denom → Prop} {E : Addr → σ → Nat} {w : World σ} (hI : ExtInv B H V E w) {i : Id} {p : Pair}
    (hp : w.pairs i = some p) (ho : p.owner = .external) (hH : H p.addr) {v : Denom} (hv : v ∈ p.denoms) :
    w.bank.supply v ≤ modBal E w p.addr := by
  have := hI.backed i p hp ho hH [v] (by simp)
    (fun d hd => List.eq_of_mem_singleton hd ▸ pairId_of_listed hI.wf hp hv)
  simpa [sumMap] using this

/-- … and whenever the contract answers, the answer covers the voucher supply -/
theorem voucher_backed_reported {B : Addr → Behaviour σ} {H : Addr → Prop} {V : Denom → Prop} {E : Addr → σ → Nat}
    {w : World σ} (hI : ExtInv B H V E w) {i : Id} {p : Pair} (hp : w.pairs i = some p) (ho : p.owner = .external)
    (hH : H p.addr) {v : Denom} (hv : v ∈ p.denoms) {m : Nat} (hm : balOf B w p.addr moduleAddr = some m) :
    w.bank.supply v ≤ m := by
  rw [(hI.tokens _ hH).truthful _ _ hm]
  exact voucher_backed hI hp ho hH hv

/-- ERC-20 → coin on an external pair, ANY token behaviour: the voucher supply and the module balance the token
reports move by the same amount (`+amount`). -/
theorem external_accepted_same_delta_erc20 {B : Addr → Behaviour σ} {w w' : World σ} {m : MsgERC20} (hw : WellFormed w)
    (h : deliverERC20 B w m = (w', .converted)) :
    ∃ j q, w.pairId m.contract = some j ∧ w.pairs j = some q ∧
      (q.owner = .external →
        w'.bank.supply m.denom = w.bank.supply m.denom + m.amount.toNat ∧
        (∃ t0, balOf B w q.addr moduleAddr = some t0 ∧ balOf B w' q.addr moduleAddr = some (t0 + m.amount.toNat))) := by
  obtain ⟨rc, j, q, st, t0, _, _, g, _, ⟨hqo, e⟩ | ⟨hqo, e⟩⟩ := erc20_exact hw h
  · exact ⟨j, q, g.tokenId, g.pair, fun ho => by rw [hqo] at ho; cases ho⟩
  · exact ⟨j, q, g.tokenId, g.pair, fun _ => ⟨e.supply, t0, e.escrowBefore, e.escrowAfter⟩⟩

/-- coin → ERC-20 on an external pair, ANY token behaviour (repaired code): exactly `amount` vouchers are burned,
the receiver's reported balance rises by exactly `amount` AND the module's reported balance falls by exactly `amount`
— the voucher supply and the escrow move by the same amount. -/
theorem external_accepted_same_delta_coin {B : Addr → Behaviour σ} {w w' : World σ} {m : MsgCoin}
    (hw : WellFormed w) (h : deliverCoin B w m = (w', .converted)) (hs : m.senderAddr ≠ some moduleAddr) :
    ∃ j q, w.pairId m.denom = some j ∧ w.pairs j = some q ∧
      (q.owner = .external →
        w'.bank.supply m.denom + m.amount.toNat = w.bank.supply m.denom ∧
        (∃ t0, balOf B w q.addr (hexToAddr m.receiver) = some t0 ∧
               balOf B w' q.addr (hexToAddr m.receiver) = some (t0 + m.amount.toNat)) ∧
        (∃ e0, m.amount.toNat ≤ e0 ∧ balOf B w q.addr moduleAddr = some e0 ∧
               balOf B w' q.addr moduleAddr = some (e0 - m.amount.toNat))) := by
  obtain ⟨s, j, q, st, b0, _, _, g, _, ⟨hqo, e⟩ | ⟨hqo, e⟩⟩ := coin_exact hw h hs
  · exact ⟨j, q, g.tokenId, g.pair, fun ho => by rw [hqo] at ho; cases ho⟩
  · refine ⟨j, q, g.tokenId, g.pair, fun _ => ⟨?_, ⟨b0, e.recvBefore, e.recvAfter⟩, e.escrow⟩⟩
    rw [e.supply]; exact Nat.sub_add_cancel e.supplyEnough

/-! ### the code before fix 320c042 (fixes/C11-escrow-postcheck.diff) and the witness of the defect -/

/-- `convertCoinNativeERC20` as it was before fix 320c042: no look at the module's own token balance. -/
def convertCoinNativeERC20Unfixed (B : Addr → Behaviour σ) (w : World σ) (pair : Pair) (denom : Denom) (amt : Nat)
    (receiver sender : Addr) : Outcome (World σ) :=
  let c := pair.addr
  let tok0 := balOf B w c receiver
  match w.bank.send sender moduleAddr denom amt with
  | .err e => .err e
  | .panic s => .panic s
  | .ok bank1 =>
    let w1 := { w with bank := bank1 }
    match (B c).transfer (w1.tok c) moduleAddr receiver amt with
    | .revert => .err "evm:15"
    | .ret _ none _ => .err "undefined:1"
    | .ret _ (some false) _ => .err "sdk:35"
    | .ret st (some true) approval =>
      let w2 := w1.setTok c st
      match tok0, balOf B w2 c receiver with
      | some t0, some t1 =>
        if t1 ≠ t0 + amt then .err "aggregate:7"
        else match w2.bank.burn denom amt with
          | .err e => .err e
          | .panic s => .panic s
          | .ok bank3 =>
            if approval then .err "aggregate:8" else .ok { w2 with bank := bank3 }
      | _, _ => .panic "nil balance"

def ddTok : TokState :=
  { kind := .doubleDebit, bal := fun a => if a = moduleAddr then 10 else 0, supply := 10, admin := fun _ => false }

def ddWorld : World TokState :=
  { params := fun _ => true, pairs := fun _ => none, byErc20 := fun _ => none, byDenom := fun _ => none,
    bank := { bal := fun a d => if a = "s" ∧ d = "vch" then 3 else 0, supply := fun d => if d = "vch" then 3 else 0,
              blocked := fun a => a == moduleAddr, sendEnabled := fun _ => true },
    tok := fun _ => ddTok, code := fun _ => true }

def ddPair : Pair := { addr := "c", denoms := ["vch"], enabled := true, owner := .external }

/-- The code before fix 320c042 + double-debit token (the same scenario was replayed on the real code, see
fixes/C11-escrow-postcheck.md): converting 3 vouchers is accepted while the module's escrow falls by 6. -/
theorem unfixed_module_side_unchecked :
    ∃ w', convertCoinNativeERC20Unfixed (fun _ => repoBehaviour) ddWorld ddPair "vch" 3 "r" "s" = .ok w' ∧
      reportedBal (fun _ => repoBehaviour) ddWorld "c" = 10 ∧ reportedBal (fun _ => repoBehaviour) w' "c" = 4 ∧
      w'.bank.supply "vch" = 0 := by
  refine ⟨_, rfl, ?_, ?_, ?_⟩ <;> decide

/-- The repaired code rejects the same conversion with `ErrBalanceInvariance`. -/
theorem fixed_rejects_double_debit :
    convertCoinNativeERC20 (fun _ => repoBehaviour) ddWorld ddPair "vch" 3 "r" "s" = .err "aggregate:7" := by
  rfl

/-! ## the token hypotheses are satisfiable: a MinterBurner whose only minter/burner is the module -/

def strictMB : Behaviour TokState where
  balanceOf := fun t a => some (t.bal a)
  totalSupply := fun t => t.supply
  transfer := fun t caller to amt => ofOpt (t.move caller to amt) (some true) false
  mint := fun t caller to amt => if caller = moduleAddr then ofOpt (t.mintTo to amt) none false else .revert
  burnCoins := fun t caller fromA amt => if caller = moduleAddr then ofOpt (t.burnFrom fromA amt) none false else .revert

theorem ofOpt_ret {o : Option TokState} {val : Option Bool} {ap : Bool} {st : TokState} {v : Option Bool} {a : Bool}
    (h : ofOpt o val ap = .ret st v a) : o = some st := by
  cases o with
  | none => cases h
  | some t => simp [ofOpt] at h; rw [h.1]

theorem move_supply {t t' : TokState} {s d : Addr} {a : Nat} (h : t.move s d a = some t') : t'.supply = t.supply := by
  unfold TokState.move at h
  split at h
  · cases h
  · injection h with h; subst h; rfl

theorem mintTo_some {t t' : TokState} {d : Addr} {a : Nat} (h : t.mintTo d a = some t') :
    t'.supply = t.supply + a ∧ ∀ x, t'.bal x = if x = d then t.bal d + a else t.bal x := by
  simp only [TokState.mintTo, Option.ite_none_left_eq_some] at h
  injection h.2 with h
  subst h
  exact ⟨rfl, fun _ => rfl⟩

theorem burnFrom_supply {t t' : TokState} {s : Addr} {a : Nat} (h : t.burnFrom s a = some t') :
    t'.supply + a = t.supply := by
  simp only [TokState.burnFrom, Option.ite_none_left_eq_some] at h
  obtain ⟨hc, h⟩ := h
  injection h with h
  subst h
  exact Nat.sub_add_cancel (Nat.le_of_not_lt (fun h => hc (Or.inr (Or.inr h))))

theorem move_module_ge {t t' : TokState} {s d : Addr} {a : Nat} (h : t.move s d a = some t') (hs : s ≠ moduleAddr) :
    t.bal moduleAddr ≤ t'.bal moduleAddr := by
  simp only [TokState.move, Option.ite_none_left_eq_some] at h
  injection h.2 with h
  subst h
  have hms : moduleAddr ≠ s := fun e => hs e.symm
  by_cases hd : moduleAddr = d
  · simp [← hd, hms]
  · simp [hd, hms]

example : ModuleToken strictMB := by
  refine ⟨?_, ?_, ?_, ?_, ?_⟩
  · intro st c t a st' v ap h
    exact Nat.le_of_eq (move_supply (ofOpt_ret h))
  · intro st t a st' v ap h
    simp only [strictMB, if_pos] at h
    exact Nat.le_of_eq (mintTo_some (ofOpt_ret h)).1
  · intro st c t a st' v ap hc h
    simp only [strictMB, if_neg hc, reduceCtorEq] at h
  · intro st f a st' v ap h
    simp only [strictMB, if_pos] at h
    exact Nat.le_of_eq (burnFrom_supply (ofOpt_ret h))
  · intro st c f a st' v ap hc h
    simp only [strictMB, if_neg hc, reduceCtorEq] at h
example : ExternalToken strictMB (fun st => st.bal moduleAddr) := by
  refine ⟨?_, ?_, ?_, ?_⟩
  · intro st m h
    injection h with h
    exact h.symm
  · intro st c t a st' v ap hc h
    exact move_module_ge (ofOpt_ret h) hc
  · intro st c t a st' v ap hc h
    simp only [strictMB, if_neg hc, reduceCtorEq] at h
  · intro st c f a st' v ap hc h
    simp only [strictMB, if_neg hc, reduceCtorEq] at h

/-- **restart_identity** restates the modelling decision: `step … .restart` is DEFINED as the identity (genesis.go exports the
params and every stored pair with its `Enabled` flag and re-imports them as exported). `ExportGenesis` / `InitGenesis` are not
modelled; the restart scenarios of the differential run cover the real round trip. -/
theorem restart_identity (B : Addr → Behaviour σ) (w : World σ) : step B w .restart = w := rfl

/-- what every action but a governance operation guarantees -/
def Shrinks (w w' : World σ) : Prop := w'.params = w.params ∧ ∀ j q, w'.pairs j = some q → w.pairs j = some q

section
variable {B : Addr → Behaviour σ} {w w' : World σ} {d : Denom} {amt : Nat} {recv snd : Addr}

theorem Shrinks.rfl : Shrinks w w := ⟨Eq.refl _, fun _ _ h => h⟩

theorem Shrinks.trans {w w1 w2 : World σ} (h1 : Shrinks w w1) (h2 : Shrinks w1 w2) : Shrinks w w2 :=
  ⟨h2.1.trans h1.1, fun j q h => h1.2 j q (h2.2 j q h)⟩

theorem Shrinks.of_setTok {c : Addr} {st : σ} {b : Bank} : Shrinks w { (w.setTok c st) with bank := b } :=
  ⟨Eq.refl _, fun _ _ h => h⟩

theorem deletePair_shrinks {p : Pair} (h : w.deletePair p = some w') : Shrinks w w' := by
  unfold World.deletePair at h
  split at h
  · cases h
  · cases h
    exact ⟨rfl, fun j q hq => (Option.ite_none_left_eq_some.mp hq).2⟩

theorem handleCoin_shrinks {cl : Bool}
    (hh : handleCoin B w d amt recv snd = .ok (w', cl)) : Shrinks w w' := by
  obtain ⟨j, q, _, hd⟩ := handleCoin_ok hh
  cases hd with
  | clean _ _ hdel => exact deletePair_shrinks hdel
  | viaModule _ _ _ hp => obtain ⟨_, _, _, _, _, _, _, h, _⟩ := coinNativeCoin_ok hp; rw [h]; exact .of_setTok
  | viaExternal _ _ _ hp => obtain ⟨_, _, _, _, _, _, _, _, h, _⟩ := coinNativeERC20_ok hp; rw [h]; exact .of_setTok

theorem handleERC20_shrinks {c : String}
    {cl : Bool} (hh : handleERC20 B w c d amt recv snd = .ok (w', cl)) : Shrinks w w' := by
  obtain ⟨j, q, _, hd⟩ := handleERC20_ok hh
  cases hd with
  | clean _ _ hdel => exact deletePair_shrinks hdel
  | viaModule _ _ _ hp => obtain ⟨_, _, _, _, _, _, _, h, _⟩ := erc20NativeCoin_ok hp; rw [h]; exact .of_setTok
  | viaExternal _ _ _ hp => obtain ⟨_, _, _, _, _, _, _, h, _⟩ := erc20NativeToken_ok hp; rw [h]; exact .of_setTok

theorem deliverCoin_shrinks (B : Addr → Behaviour σ) (w : World σ) (m : MsgCoin) : Shrinks w (step B w (.coin m)) :=
  deliverCoin_keeps (P := Shrinks w) .rfl (fun _ _ _ _ => handleCoin_shrinks)

theorem deliverERC20_shrinks (B : Addr → Behaviour σ) (w : World σ) (m : MsgERC20) :
    Shrinks w (step B w (.erc20 m)) :=
  deliverERC20_keeps (P := Shrinks w) .rfl (fun _ _ _ => handleERC20_shrinks)

theorem ics20Recv_shrinks (B : Addr → Behaviour σ) (w : World σ) (p : IcsPacket) : Shrinks w (step B w (.ics20 p)) :=
  -- the transfer application writes the bank only
  ics20Recv_keeps (P := Shrinks w) .rfl (fun _ _ _ => .rfl) (fun _ _ _ _ _ h hh => h.trans (handleCoin_shrinks hh))

theorem userCall_shrinks (w : World σ) (c : Addr) (r : Call σ) : Shrinks w (if w.code c then applyCall w c r else w) := by
  split
  · cases r <;> exact .rfl
  · exact .rfl

/-- the governance operations that rewrite a stored pair record -/
def Action.rewritesPair : Action → Prop
  | .toggle _ => True
  | .addCoin _ _ => True
  | .updateERC20 _ _ _ => True
  | _ => False

/-- an action that can change the parameter stored under `EnableAggregate` -/
def Action.writesEnableAggregate : Action → Prop
  | .setEnabled _ => True
  | .setParamByKey k _ => k = keyEnableAggregate
  | _ => False

theorem toggleRelay_params (w : World σ) (t : String) : (toggleRelay w t).params = w.params := by
  unfold toggleRelay
  split
  · rfl
  · split
    · rfl
    · split <;> rfl

theorem addCoin_cases {c : Addr} (h : addCoin w d c = w') :
    w' = w ∨ ∃ i p, w.pairs i = some p ∧ (addCoinPair p d).id? = some i ∧
      w' = { w with pairs := fun j => if j = i then some (addCoinPair p d) else w.pairs j
                    byDenom := fun e => if e = d then some i else w.byDenom e } := by
  unfold addCoin at h
  rcases ite_eq_cases.mp h with ⟨_, h⟩ | ⟨_, h⟩
  · exact Or.inl h.symm
  rcases ite_eq_cases.mp h with ⟨_, h⟩ | ⟨_, h⟩
  · exact Or.inl h.symm
  split at h
  · exact Or.inl h.symm
  rename_i i _
  split at h
  · exact Or.inl h.symm
  rename_i p hp
  rcases ite_eq_cases.mp h with ⟨_, h⟩ | ⟨hnew, h⟩
  · exact Or.inl h.symm
  · exact Or.inr ⟨i, p, hp, Decidable.of_not_not hnew, h.symm⟩

theorem updateERC20_cases {old new : Addr} {m : Bool} (h : updateERC20 w old new m = w') :
    w' = w ∨ ∃ i p w1 i', w.pairs i = some p ∧ w.deletePair p = some w1 ∧ (updatePair p new).id? = some i' ∧
      w' = { w1 with pairs := fun j => if j = i' then some (updatePair p new) else w1.pairs j
                     byErc20 := fun a => if a = new then some i' else w1.byErc20 a
                     byDenom := fun e => if p.denoms.contains e then some i' else w1.byDenom e } := by
  unfold updateERC20 at h
  split at h
  · exact Or.inl h.symm
  rename_i i _
  split at h
  · exact Or.inl h.symm
  rename_i p hp
  rcases ite_eq_cases.mp h with ⟨_, h⟩ | ⟨_, h⟩
  · exact Or.inl h.symm
  rcases ite_eq_cases.mp h with ⟨_, h⟩ | ⟨_, h⟩
  · exact Or.inl h.symm
  split at h
  · rename_i w1 i' hdel hid
    exact Or.inr ⟨i, p, w1, i', hp, hdel, hid, h.symm⟩
  · exact Or.inl h.symm

theorem addCoin_params (w : World σ) (d : Denom) (c : Addr) : (addCoin w d c).params = w.params := by
  rcases addCoin_cases (rfl : addCoin w d c = _) with h | ⟨_, _, _, _, h⟩ <;> rw [h]

theorem updateERC20_params (w : World σ) (old new : Addr) (m : Bool) : (updateERC20 w old new m).params = w.params := by
  rcases updateERC20_cases (rfl : updateERC20 w old new m = _) with h | ⟨_, _, _, _, _, hdel, _, h⟩ <;> rw [h]
  exact (deletePair_shrinks hdel).1

end

/-- Only the governance operations rewrite a stored pair; every other action (restarts included) keeps each pair as it
is or deletes it (clean-up of a contract without code). -/
theorem step_pairs {B : Addr → Behaviour σ} {w : World σ} {a : Action} (ha : ¬ a.rewritesPair) :
    ∀ j q, (step B w a).pairs j = some q → w.pairs j = some q := by
  cases a with
  | coin m => exact (deliverCoin_shrinks B w m).2
  | erc20 m => exact (deliverERC20_shrinks B w m).2
  | ics20 p => exact (ics20Recv_shrinks B w p).2
  | userTransfer c _ _ _ | userMint c _ _ _ | userBurn c _ _ _ => exact (userCall_shrinks w c _).2
  | toggle _ | addCoin _ _ | updateERC20 _ _ _ => exact absurd trivial ha
  | _ => intro j q h; exact h

theorem run_pairs {B : Addr → Behaviour σ} {w : World σ} {as : List Action} (ha : ∀ a ∈ as, ¬ a.rewritesPair) :
    ∀ j q, (run B w as).pairs j = some q → w.pairs j = some q :=
  run_keeps (P := fun w' => ∀ j q, w'.pairs j = some q → w.pairs j = some q)
    (fun _ _ h hr j q hq => h j q (step_pairs hr j q hq)) (fun _ _ h => h) ha

/-- **disabled_pair_refuses**: once a pair is switched off, then after any history without the governance operations that
rewrite a stored pair (`ToggleRelay`, and also `AddCoin`, `UpdateTokenPairERC20`: for those see
`disabled_stays_disabled_until_toggled`) — conversions in both directions, ICS-20 packets, user token calls, bank sends, parameter changes, self-destructs and
any number of restarts — every `MsgConvertCoin`, `MsgConvertERC20` addressed to it is rejected (nothing written) and
the ICS-20 hook does not convert for it. -/
theorem disabled_pair_refuses {B : Addr → Behaviour σ} {w : World σ} {as : List Action} {i : Id} {p : Pair}
    (hp : w.pairs i = some p) (hd : p.enabled = false) (ha : ∀ a ∈ as, ¬ a.rewritesPair) :
    (∀ m : MsgCoin, (run B w as).pairId m.denom = some i → ∃ c, deliverCoin B (run B w as) m = (run B w as, .rejected c)) ∧
    (∀ m : MsgERC20, (run B w as).pairId m.contract = some i →
      ∃ c, deliverERC20 B (run B w as) m = (run B w as, .rejected c)) ∧
    (∀ pk : IcsPacket, (run B w as).pairId pk.voucher = some i →
      (ics20Recv B (run B w as) pk).2 ≠ .converted ∧ (ics20Recv B (run B w as) pk).2 ≠ .cleaned) := by
  -- still stored switched off, or deleted: either way the gate is shut
  have hshut : ∀ token, (run B w as).pairId token = some i → GateShut (run B w as) token := by
    intro token ht
    refine Or.inr ⟨i, ht, fun q hq => ?_⟩
    have := run_pairs ha i q hq
    rw [hp] at this; cases this
    exact hd
  exact ⟨fun m hm => deliverCoin_refuses (Or.inl (hshut _ hm)), fun m hm => deliverERC20_refuses (Or.inl (hshut _ hm)),
    fun pk hpk => ics20Recv_refuses (hshut _ hpk)⟩

/-! ## parameters are switched BY KEY: the key must be bound to its own field -/

/-- **paramPairs_bind_own_field** (obligation over the table `tools/gofacts` extracts from the CURRENT
`Params.ParamSetPairs`): the source binds exactly the pairs the model uses — every store key to the field of the
same name. A swapped / re-bound pair changes the generated table and this stops compiling. -/
theorem paramPairs_bind_own_field : TM.Generated.AggregateParams.paramPairs = paramPairs := by decide +kernel

theorem keyOfField_enableAggregate : keyOfField "EnableAggregate" = keyEnableAggregate := by decide +kernel

/-- the module-wide switch the keeper reads IS the value stored under the key `EnableAggregate` -/
theorem enabled_reads_own_key (w : World σ) : w.enabled = w.params keyEnableAggregate := by
  simp [World.enabled, keyOfField_enableAggregate]

/-- Only a write to the key `EnableAggregate` changes the value stored under it. -/
theorem step_enableAggregate {B : Addr → Behaviour σ} {w : World σ} {a : Action} (ha : ¬ a.writesEnableAggregate) :
    (step B w a).params keyEnableAggregate = w.params keyEnableAggregate := by
  cases a with
  | coin m => exact congrFun (deliverCoin_shrinks B w m).1 _
  | erc20 m => exact congrFun (deliverERC20_shrinks B w m).1 _
  | ics20 p => exact congrFun (ics20Recv_shrinks B w p).1 _
  | userTransfer c _ _ _ | userMint c _ _ _ | userBurn c _ _ _ => exact congrFun (userCall_shrinks w c _).1 _
  | setEnabled b => exact absurd trivial ha
  | setParamByKey k b => exact if_neg (fun e => ha e.symm)
  | toggle t => exact congrFun (toggleRelay_params w t) _
  | addCoin d c => exact congrFun (addCoin_params w d c) _
  | updateERC20 o n m => exact congrFun (updateERC20_params w o n m) _
  | _ => rfl

theorem run_enableAggregate {B : Addr → Behaviour σ} {w : World σ} {as : List Action}
    (ha : ∀ a ∈ as, ¬ a.writesEnableAggregate) :
    (run B w as).params keyEnableAggregate = w.params keyEnableAggregate :=
  run_keeps (P := fun w' => w'.params keyEnableAggregate = w.params keyEnableAggregate)
    (fun _ _ h hr => (step_enableAggregate hr).trans h) rfl ha

/-- **disabled_by_key_refuses**: after governance wrote `false` under the KEY `EnableAggregate` (a parameter change
proposal addresses the parameter by key; whatever is stored under `EnableEVMHook`), and after any history that
does not write that key again — conversions, ICS-20 packets, writes to the OTHER key, relay toggles, restarts … —
every `MsgConvertCoin` / `MsgConvertERC20` is rejected with the state unchanged and the ICS-20 hook does not
convert. -/
theorem disabled_by_key_refuses {B : Addr → Behaviour σ} {w : World σ} {as : List Action}
    (ha : ∀ a ∈ as, ¬ a.writesEnableAggregate) :
    let w' := run B (step B w (.setParamByKey keyEnableAggregate false)) as
    (∀ m : MsgCoin, ∃ c, deliverCoin B w' m = (w', .rejected c)) ∧
    (∀ m : MsgERC20, ∃ c, deliverERC20 B w' m = (w', .rejected c)) ∧
    (∀ pk : IcsPacket, (ics20Recv B w' pk).2 ≠ .converted ∧ (ics20Recv B w' pk).2 ≠ .cleaned) := by
  intro w'
  have hoff : w'.enabled = false := by
    rw [enabled_reads_own_key]
    show (run B (step B w (.setParamByKey keyEnableAggregate false)) as).params keyEnableAggregate = false
    rw [run_enableAggregate ha]
    show (if keyEnableAggregate = keyEnableAggregate then false else w.params keyEnableAggregate) = false
    exact if_pos rfl
  exact ⟨fun m => deliverCoin_refuses (Or.inl (Or.inl hoff)), fun m => deliverERC20_refuses (Or.inl (Or.inl hoff)),
    fun pk => ics20Recv_refuses (Or.inl hoff)⟩

/-- **failed_reading_fails_conversion**: a conversion that goes through has read every balance it compares
successfully — a `balanceOf` that reverts or returns undecodable data (before OR after the transfer) makes the
conversion fail (in the code: the nil `*big.Int` is dereferenced and the transaction panics; nothing is written).
A failed reading is never taken for a balance of 0. -/
theorem failed_reading_fails_conversion {B : Addr → Behaviour σ} {w w' : World σ} {pair : Pair} {d : Denom} {amt : Nat}
    {recv snd : Addr} :
    (convertERC20NativeToken B w pair d amt recv snd = .ok w' →
      (balOf B w pair.addr moduleAddr).isSome ∧ (balOf B w' pair.addr moduleAddr).isSome) ∧
    (convertCoinNativeERC20 B w pair d amt recv snd = .ok w' →
      (balOf B w pair.addr recv).isSome ∧ (balOf B w' pair.addr recv).isSome ∧
      (balOf B w pair.addr moduleAddr).isSome ∧ (balOf B w' pair.addr moduleAddr).isSome) ∧
    (convertCoinNativeCoin B w pair d amt recv snd = .ok w' →
      (balOf B w pair.addr recv).isSome ∧ (balOf B w' pair.addr recv).isSome) ∧
    (convertERC20NativeCoin B w pair d amt recv snd = .ok w' →
      (balOf B w pair.addr snd).isSome ∧ (balOf B w' pair.addr snd).isSome) := by
  refine ⟨?_, ?_, ?_, ?_⟩
  · intro h
    obtain ⟨_, _, _, _, _, _, _, _, h6, h7⟩ := erc20NativeToken_ok h
    simp [h6, h7]
  · intro h
    obtain ⟨_, _, _, _, _, _, _, _, _, h5, h6, _, h8, h9⟩ := coinNativeERC20_ok h
    simp [h5, h6, h8, h9]
  · intro h
    obtain ⟨_, _, _, _, _, _, _, _, h4, h5⟩ := coinNativeCoin_ok h
    simp [h4, h5]
  · intro h
    obtain ⟨_, _, _, _, _, _, _, _, _, h6, h7⟩ := erc20NativeCoin_ok h
    simp [h6, h7]

/-- … in particular the ERC-20 → voucher path with a failed first escrow reading is not accepted, whatever the
transfer does and whatever the second reading says (the `amount == escrow` coincidence of a zeroed reading). -/
theorem failed_first_reading_rejects {B : Addr → Behaviour σ} {w : World σ} {pair : Pair} {d : Denom} {amt : Nat}
    {recv snd : Addr} (h : balOf B w pair.addr moduleAddr = none) :
    ∀ w', convertERC20NativeToken B w pair d amt recv snd ≠ .ok w' := by
  intro w' hok
  have := (failed_reading_fails_conversion.1 hok).1
  rw [h] at this; cases this

/-- the token contracts of the harness (MinterBurner, DirectBalanceManipulation, MaliciousDelayed, double-debit,
fee-on-receive and the programmable token with failing view functions and misbehaving transfers) when the holder of a
burner role does not burn other accounts' tokens -/
def repoClass : Behaviour TokState :=
  { repoBehaviour with
    burnCoins := fun t caller fromA amt => if caller = moduleAddr then repoBehaviour.burnCoins t caller fromA amt else .revert }

theorem advTransfer_module_ge {t t' : TokState} {c to : Addr} {a e : Nat} {v : Option Bool} {ap : Bool}
    (h : advTransfer t c to a e = .ret t' v ap) (hc : c ≠ moduleAddr) : t.bal moduleAddr ≤ t'.bal moduleAddr := by
  unfold advTransfer at h
  split at h
  · cases h
  · injection h with h1 _ _; subst h1
    have hmc : moduleAddr ≠ c := fun x => hc x.symm
    have hmt : moduleAddr ≠ thief := by decide +kernel
    by_cases hd : moduleAddr = to
    · simp [← hd, hmc, hmt]
    · simp [hd, hmc, hmt]

theorem pgBalanceOf_some {t : TokState} {a : Addr} {m : Nat} (h : pgBalanceOf t a = some m) : m = t.bal a := by
  simp only [pgBalanceOf, Option.ite_none_left_eq_some] at h
  injection h.2 with h
  exact h.symm

theorem pgTransfer_module_ge {t t' : TokState} {c to : Addr} {a : Nat} {v : Option Bool} {ap : Bool}
    (h : pgTransfer t c to a = .ret t' v ap) (hc : c ≠ moduleAddr) : t.bal moduleAddr ≤ t'.bal moduleAddr := by
  simp only [pgTransfer, ite_eq_cases] at h
  rcases h with ⟨_, h⟩ | ⟨_, ⟨_, h⟩ | ⟨_, h⟩⟩
  · cases h
  · cases h; exact Nat.le_refl _
  · split at h
    · cases h
    · rename_i hadv
      cases h
      exact advTransfer_module_ge (t := { t with readMode := t.readNext, readNext := 0, xferMode := 0 }) hadv hc

theorem repoTransfer_module_ge {t t' : TokState} {c to : Addr} {a : Nat} {v : Option Bool} {ap : Bool}
    (h : repoTransfer t c to a = .ret t' v ap) (hc : c ≠ moduleAddr) : t.bal moduleAddr ≤ t'.bal moduleAddr := by
  unfold repoTransfer at h
  split at h
  · exact pgTransfer_module_ge h hc
  · exact move_module_ge (ofOpt_ret h) hc
  · -- directBalance: two moves
    have := ofOpt_ret h
    cases h1 : t.move c thief (a - a / 2) with
    | none => rw [h1] at this; cases this
    | some t1 =>
      rw [h1] at this
      exact Nat.le_trans (move_module_ge h1 hc) (move_module_ge this hc)
  · simp only [ite_eq_cases] at h
    rcases h with ⟨_, h⟩ | ⟨_, h⟩
    · cases h
    · exact move_module_ge (ofOpt_ret h) hc
  · exact advTransfer_module_ge h hc
  · exact advTransfer_module_ge h hc

/-- **The backing invariant ranges over the adversarial token class**: every token kind of the harness — the
programmable one included — is an `ExternalToken` for the ledger "balance stored for the module". -/
theorem repoClass_external : ExternalToken repoClass (fun t => t.bal moduleAddr) := by
  refine ⟨?_, ?_, ?_, ?_⟩
  · intro st m h
    simp only [repoClass, repoBehaviour] at h
    split at h
    · exact pgBalanceOf_some h
    · injection h with h; exact h.symm
  · intro st c t a st' v ap hc h
    exact repoTransfer_module_ge h hc
  · intro st c t a st' v ap hc h
    simp only [repoClass, repoBehaviour, ite_eq_cases] at h
    rcases h with ⟨_, h⟩ | ⟨_, h⟩
    · show st.bal moduleAddr ≤ st'.bal moduleAddr
      rw [(mintTo_some (ofOpt_ret h)).2]
      by_cases hd : moduleAddr = t
      · rw [if_pos hd, ← hd]; exact Nat.le_add_right _ _
      · rw [if_neg hd]; exact Nat.le_refl _
    · cases h
  · intro st c f a st' v ap hc h
    simp only [repoClass, if_neg hc] at h
    cases h

/-- frame: `AddCoin` rewrites the denomination list only -/
theorem addCoin_preserves_enabled (p : Pair) (d : Denom) :
    (addCoinPair p d).enabled = p.enabled ∧ (addCoinPair p d).addr = p.addr ∧ (addCoinPair p d).owner = p.owner ∧
    (addCoinPair p d).denoms.head? = (if p.denoms = [] then some d else p.denoms.head?) := by
  refine ⟨rfl, rfl, rfl, ?_⟩
  cases h : p.denoms <;> simp [addCoinPair, h]

/-- frame: `UpdateTokenPairERC20` rewrites the contract address only -/
theorem updateERC20_preserves_enabled (p : Pair) (new : Addr) :
    (updatePair p new).enabled = p.enabled ∧ (updatePair p new).denoms = p.denoms ∧ (updatePair p new).owner = p.owner :=
  ⟨rfl, rfl, rfl⟩

/-- `togglePair` flips `Enabled` (the model's `toggleRelay` writes the same record update inline) -/
theorem toggle_flips_enabled (p : Pair) : (togglePair p).enabled = !p.enabled := rfl

/-- A pair's identity across governance operations is its FIRST denomination (`GetID` hashes the address and
`Denoms[0]`; `AddCoin` appends, `UpdateTokenPairERC20` keeps the list): `EnabledHead w d0` = some stored pair whose
first denomination is `d0` is enabled. -/
def EnabledHead (w : World σ) (d0 : Denom) : Prop :=
  ∃ i p, w.pairs i = some p ∧ p.enabled = true ∧ p.denoms.head? = some d0

/-- every pair is stored under its own id: `WellFormed.id_ok` alone (`step_enabledHead`: kept by every action but `ToggleRelay`,
which is not needed here) -/
def Ided (w : World σ) : Prop := ∀ i p, w.pairs i = some p → p.id? = some i

theorem denoms_ne_nil_of_id {p : Pair} {i : Id} (h : p.id? = some i) : p.denoms ≠ [] := by
  intro e; simp [Pair.id?, e] at h

theorem frame_of_store {w w' : World σ} {t : Id → Option Pair} {i i' : Id} {p p' : Pair} (hid : Ided w)
    (ht : ∀ j q, t j = some q → w.pairs j = some q) (hp : w.pairs i = some p) (hnew : p'.id? = some i')
    (hen : p'.enabled = p.enabled) (hhd : p'.denoms.head? = p.denoms.head?)
    (hw' : ∀ j, w'.pairs j = if j = i' then some p' else t j) :
    Ided w' ∧ ∀ d0, EnabledHead w' d0 → EnabledHead w d0 := by
  refine ⟨fun j q hq => ?_, fun d0 ⟨j, q, hq, he, hh⟩ => ?_⟩ <;> rw [hw' j] at hq <;> by_cases hji : j = i'
  · rw [if_pos hji] at hq; cases hq; exact hji ▸ hnew
  · rw [if_neg hji] at hq; exact hid j q (ht j q hq)
  · rw [if_pos hji] at hq; cases hq; exact ⟨i, p, hp, hen ▸ he, hhd ▸ hh⟩
  · rw [if_neg hji] at hq; exact ⟨j, q, ht j q hq, he, hh⟩

theorem addCoin_frame {w : World σ} {d : Denom} {c : Addr} (hid : Ided w) :
    Ided (addCoin w d c) ∧ ∀ d0, EnabledHead (addCoin w d c) d0 → EnabledHead w d0 := by
  rcases addCoin_cases (rfl : addCoin w d c = _) with h | ⟨i, p, hp, hnew, h⟩ <;> rw [h]
  · exact ⟨hid, fun _ h => h⟩
  · have hh := (addCoin_preserves_enabled p d).2.2.2
    rw [if_neg (denoms_ne_nil_of_id (hid i p hp))] at hh
    exact frame_of_store hid (fun _ _ h => h) hp hnew rfl hh (fun _ => rfl)

theorem updateERC20_frame {w : World σ} {old new : Addr} {m : Bool} (hid : Ided w) :
    Ided (updateERC20 w old new m) ∧ ∀ d0, EnabledHead (updateERC20 w old new m) d0 → EnabledHead w d0 := by
  rcases updateERC20_cases (rfl : updateERC20 w old new m = _) with h | ⟨i, p, w1, i', hp, hdel, hnew, h⟩ <;> rw [h]
  · exact ⟨hid, fun _ h => h⟩
  · exact frame_of_store hid (deletePair_shrinks hdel).2 hp hnew rfl rfl (fun _ => rfl)

theorem step_enabledHead {B : Addr → Behaviour σ} {w : World σ} {a : Action} (hid : Ided w) (ha : ∀ t, a ≠ .toggle t) :
    Ided (step B w a) ∧ ∀ d0, EnabledHead (step B w a) d0 → EnabledHead w d0 := by
  by_cases hr : a.rewritesPair
  · cases a with
    | toggle t => exact absurd rfl (ha t)
    | addCoin d c => exact addCoin_frame hid
    | updateERC20 o n m => exact updateERC20_frame hid
    | _ => exact absurd hr (by simp [Action.rewritesPair])
  · have hsub := step_pairs (B := B) (w := w) hr
    exact ⟨fun j q hq => hid j q (hsub j q hq),
      fun d0 ⟨j, q, hq, hen, hhd⟩ => ⟨j, q, hsub j q hq, hen, hhd⟩⟩

/-- **disabled_stays_disabled_until_toggled**: if no stored pair with first denomination `d0` is enabled, then after
ANY list of operations that contains no `ToggleRelay` — `AddCoin`, `UpdateTokenPairERC20`, parameter changes by key or
by `SetParams`, restarts, conversions, ICS-20 packets, user calls, … in any order — still none is; and every
conversion message addressed to such a pair (through ANY of its denominations, old or newly added, or through its
current contract address) is rejected with the state unchanged, the ICS-20 hook does not convert for it. -/
theorem disabled_stays_disabled_until_toggled {B : Addr → Behaviour σ} {w : World σ} {as : List Action} {d0 : Denom}
    (hid : Ided w) (hoff : ¬ EnabledHead w d0) (ha : ∀ a ∈ as, ∀ t, a ≠ .toggle t) :
    let w' := run B w as
    ¬ EnabledHead w' d0 ∧
    (∀ (m : MsgCoin) i p, w'.pairId m.denom = some i → w'.pairs i = some p → p.denoms.head? = some d0 →
      ∃ c, deliverCoin B w' m = (w', .rejected c)) ∧
    (∀ (m : MsgERC20) i p, w'.pairId m.contract = some i → w'.pairs i = some p → p.denoms.head? = some d0 →
      ∃ c, deliverERC20 B w' m = (w', .rejected c)) ∧
    (∀ (pk : IcsPacket) i p, w'.pairId pk.voucher = some i → w'.pairs i = some p → p.denoms.head? = some d0 →
      (ics20Recv B w' pk).2 ≠ .converted ∧ (ics20Recv B w' pk).2 ≠ .cleaned) := by
  intro w'
  have key : Ided w' ∧ ¬ EnabledHead w' d0 :=
    run_keeps (P := fun w => Ided w ∧ ¬ EnabledHead w d0)
      (fun _ _ h hr => ⟨(step_enabledHead h.1 hr).1, fun x => h.2 ((step_enabledHead h.1 hr).2 d0 x)⟩) ⟨hid, hoff⟩ ha
  have hshut : ∀ token i p, w'.pairId token = some i → w'.pairs i = some p → p.denoms.head? = some d0 →
      GateShut w' token := by
    intro token i p hi hp hh
    refine .of_disabled hi hp ?_
    cases he : p.enabled with
    | false => rfl
    | true => exact absurd ⟨i, p, hp, he, hh⟩ key.2
  exact ⟨key.2, fun m i p hi hp hh => deliverCoin_refuses (Or.inl (hshut _ i p hi hp hh)),
    fun m i p hi hp hh => deliverERC20_refuses (Or.inl (hshut _ i p hi hp hh)),
    fun pk i p hi hp hh => ics20Recv_refuses (hshut _ i p hi hp hh)⟩

end TM.Convert
