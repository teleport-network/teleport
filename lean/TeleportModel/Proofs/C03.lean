import TeleportModel.Model.World
/-
C03 — cross-chain value conservation: delivered or refunded, never both.
Theorems about `TM.World` (Model/World.lean), for every world satisfying the invariant and every list of steps.
-/
namespace TM.World

theorem upd1_eq {α} (f : Nat → α) (k : Nat) (v : α) : upd1 f k v k = v := by simp [upd1]
theorem upd1_ne {α} (f : Nat → α) {k x : Nat} (v : α) (h : x ≠ k) : upd1 f k v x = f x := by simp [upd1, h]
theorem upd2_app {α} (f : Nat → Nat → α) (a b : Nat) (v : α) (x y : Nat) :
    upd2 f a b v x y = if x = a ∧ y = b then v else f x y := rfl

theorem upd2_self {α} (f : Nat → Nat → α) (a b : Nat) (v : α) : upd2 f a b v a b = v := by simp [upd2]

theorem upd2_ne {α} (f : Nat → Nat → α) {a b x y : Nat} (v : α) (h : ¬ (x = a ∧ y = b)) : upd2 f a b v x y = f x y :=
  if_neg h
theorem upd2_add (f : Nat → Nat → Nat) (a b n x y : Nat) :
    upd2 f a b (f a b + n) x y = f x y + (if y = b then if a = x then n else 0 else 0) := by
  unfold upd2
  by_cases hy : y = b
  · by_cases hx : a = x
    · subst hx; subst hy; simp
    · simp [hy, hx, Ne.symm hx]
  · simp [hy]

theorem upd2_sub (f : Nat → Nat → Nat) (a b n x y : Nat) (h : n ≤ f a b) :
    upd2 f a b (f a b - n) x y + (if y = b then if a = x then n else 0 else 0) = f x y := by
  unfold upd2
  by_cases hy : y = b
  · by_cases hx : a = x
    · subst hx; subst hy; simp; omega
    · simp [hy, hx, Ne.symm hx]
  · simp [hy]

/-- amount of origin token `T` escrowed on the source by packet `p` -/
def fwdAmt (p : Packet) (T : Token) : Nat :=
  match p.transfer with
  | some t => if t.ori = none ∧ t.token = T then t.amount else 0
  | none => 0

/-- amount of bound token `V` burnt on the source by packet `p` (going back to its origin) -/
def backAmt (p : Packet) (V : Token) : Nat :=
  match p.transfer with
  | some t => if t.ori ≠ none ∧ t.token = V then t.amount else 0
  | none => 0

/-- amount of origin token `T` released on the origin chain when `p` is executed there -/
def relAmt (p : Packet) (T : Token) : Nat :=
  match p.transfer with
  | some t => if t.ori = some T then t.amount else 0
  | none => 0

/-- amount of bound token `V` minted on the destination when `p` is executed there -/
def crdAmt (cfg : Cfg) (p : Packet) (V : Token) : Nat :=
  match p.transfer with
  | some t => if t.ori = none ∧ cfg.trace p.src t.token = some V then t.amount else 0
  | none => 0

/-- contribution of a committed packet to "in flight towards `B`": counted unless `B` wrote a success acknowledgement -/
def term (acks : Nat → Option Nat) (B : ChainId) (f : Packet → Nat) (p : Packet) : Nat :=
  if p.dst = B ∧ acks p.seq ≠ some 0 then f p else 0

def flight (acks : Nat → Option Nat) (B : ChainId) (f : Packet → Nat) (l : List Packet) : Nat :=
  (l.map (term acks B f)).sum

/-- The conservation equation for the ordered pair (A,B) and token `T` of `A`:
escrowed on A towards B = in flight A→B + (minted on B for A + bound tokens burnt on B in flight back to A).
`bindings.amount` is kept in bound units, 10^scale of them per origin unit, so the origin-unit quantities are
multiplied by k = 10^scale; a token without binding on B is only ever in flight. -/
def eqn (cfgB : Cfg) (cA cB : Chain) (A B : ChainId) (T : Token) : Prop :=
  match cfgB.trace A T with
  | some V =>
    10 ^ cfgB.scale V A * cA.evm.out T B =
      10 ^ cfgB.scale V A * flight (cB.acks A) B (fun p => fwdAmt p T) cA.commits +
      (cB.evm.bindAmt V A + 10 ^ cfgB.scale V A * flight (cA.acks B) A (fun p => backAmt p V) cB.commits)
  | none => cA.evm.out T B = flight (cB.acks A) B (fun p => fwdAmt p T) cA.commits

def Conserved (w : World) : Prop := ∀ A B T, A ≠ B → eqn (w.cfg B) (w.chains A) (w.chains B) A B T

theorem mul_of_add {k a b c : Nat} (h : a + b = c) : k * a + k * b = k * c := by rw [← h, Nat.mul_add]

def PktWF (cfg : Cfg) (A : ChainId) (nextSeq : ChainId → Nat) (p : Packet) : Prop :=
  p.src = A ∧ p.dst ≠ A ∧ p.seq < nextSeq p.dst ∧ ∀ t, p.transfer = some t → t.ori = cfg.ori t.token p.dst

def KeysDistinct (l : List Packet) : Prop := l.Pairwise (fun p q => p.dst ≠ q.dst ∨ p.seq ≠ q.seq)

/-- Well-formedness of a world (established by the fresh world, preserved by every step). -/
structure WF (w : World) : Prop where
  cfg : ∀ B A T V, (w.cfg B).trace A T = some V ↔ (w.cfg B).ori V A = some T
  pkt : ∀ A p, p ∈ (w.chains A).commits → PktWF (w.cfg A) A (w.chains A).nextSeq p
  keys : ∀ A, KeysDistinct (w.chains A).commits
  acks : ∀ A B s, (w.chains B).acks A s ≠ none → (w.chains B).receipts A s = true
  rcpt : ∀ A B s, (w.chains B).receipts A s = true → s < (w.chains A).nextSeq B

def Inv (w : World) : Prop := WF w ∧ Conserved w

theorem flight_cons (acks : Nat → Option Nat) (B : ChainId) (f : Packet → Nat) (p : Packet) (l : List Packet) :
    flight acks B f (p :: l) = term acks B f p + flight acks B f l := by
  simp [flight]

theorem sum_map_erase (f : Packet → Nat) (p : Packet) (l : List Packet) (h : p ∈ l) :
    ((l.erase p).map f).sum + f p = (l.map f).sum := by
  rw [((List.perm_cons_erase h).map f).sum_nat, List.map_cons, List.sum_cons]
  exact Nat.add_comm _ _

theorem erase_key (p r : Packet) (l : List Packet) (hk : KeysDistinct l) (hp : p ∈ l) (hr : r ∈ l.erase p) :
    r.dst ≠ p.dst ∨ r.seq ≠ p.seq := by
  have hk' : KeysDistinct (p :: l.erase p) := (List.perm_cons_erase hp).pairwise hk (fun h => h.imp Ne.symm Ne.symm)
  exact ((List.pairwise_cons.mp hk').1 r hr).imp Ne.symm Ne.symm

theorem flight_erase (acks : Nat → Option Nat) (B : ChainId) (f : Packet → Nat) (p : Packet) (l : List Packet) (h : p ∈ l) :
    flight acks B f (l.erase p) + term acks B f p = flight acks B f l :=
  sum_map_erase (term acks B f) p l h

theorem flight_change (g g' : Packet → Nat) (p : Packet) (l : List Packet) (hk : KeysDistinct l) (hp : p ∈ l)
    (hg : ∀ y, (y.dst ≠ p.dst ∨ y.seq ≠ p.seq) → g' y = g y) :
    (l.map g').sum + g p = (l.map g).sum + g' p := by
  have h1 := sum_map_erase g p l hp
  have h2 := sum_map_erase g' p l hp
  rw [List.map_congr_left (fun y hy => hg y (erase_key p y l hk hp hy))] at h2
  omega

theorem set_chains_eq (w : World) (X : ChainId) (c : Chain) : (w.set X c).chains X = c := by simp [World.set, upd1]
theorem set_chains_ne (w : World) {X Y : ChainId} (c : Chain) (h : Y ≠ X) : (w.set X c).chains Y = w.chains Y := by
  simp [World.set, upd1, h]
theorem set_cfg (w : World) (X : ChainId) (c : Chain) : (w.set X c).cfg = w.cfg := rfl
theorem set_set (w : World) (X : ChainId) (c c' : Chain) : (w.set X c).set X c' = w.set X c' := by
  simp only [World.set]
  congr 1
  funext y
  simp only [upd1]
  split <;> rfl

theorem set_proj {α} (w : World) (X : ChainId) (c' : Chain) (f : Chain → α) (hf : f c' = f (w.chains X)) (Y : ChainId) :
    f ((w.set X c').chains Y) = f (w.chains Y) := by
  by_cases h : Y = X
  · subst h; rw [set_chains_eq]; exact hf
  · rw [set_chains_ne _ _ h]

/-- relay fee of packet `p` in token `F` as recorded in the packet contract's `packetFees` -/
def feeAt (e : Evm) (p : Packet) (F : Token) : Nat :=
  if (e.fee p.dst p.seq).1 = F then (e.fee p.dst p.seq).2 else 0

structure SendEff (cfg : Cfg) (me : ChainId) (c c' : Chain) (p : Packet) : Prop where
  commits : c'.commits = p :: c.commits
  acks : c'.acks = c.acks
  receipts : c'.receipts = c.receipts
  nextSeq : c'.nextSeq = upd1 c.nextSeq p.dst (p.seq + 1)
  seq : p.seq = c.nextSeq p.dst
  src : p.src = me
  dst : p.dst ≠ me
  ori : ∀ t, p.transfer = some t → t.ori = cfg.ori t.token p.dst
  out : ∀ T D, c'.evm.out T D = c.evm.out T D + (if D = p.dst then fwdAmt p T else 0)
  bind : ∀ V D, c'.evm.bindAmt V D + (if D = p.dst then 10 ^ cfg.scale V D * backAmt p V else 0) = c.evm.bindAmt V D
  cred : c'.evm.credited = c.evm.credited
  refd : c'.evm.refunded = c.evm.refunded
  fpd : c'.evm.feePaid = c.evm.feePaid
  feeKey : ∀ D q, ¬ (D = p.dst ∧ q = p.seq) → c'.evm.fee D q = c.evm.fee D q
  esc : ∀ F, c.evm.bal F acPacket + feeAt c'.evm p F ≤ c'.evm.bal F acPacket

section
variable (w : World) (X : ChainId) (c' : Chain) (p : Packet) (code : Nat)

theorem conserved_set (hc : Conserved w)
    (hsrc : ∀ B T, B ≠ X → eqn (w.cfg B) c' (w.chains B) X B T)
    (hdst : ∀ A T, A ≠ X → eqn (w.cfg X) (w.chains A) c' A X T) : Conserved (w.set X c') := by
  intro A B T hne
  rw [set_cfg]
  by_cases hA : A = X
  · subst hA
    have hB : B ≠ A := fun h => hne h.symm
    rw [set_chains_eq, set_chains_ne _ _ hB]
    exact hsrc B T hB
  · by_cases hB : B = X
    · subst hB
      rw [set_chains_eq, set_chains_ne _ _ hA]
      exact hdst A T hA
    · rw [set_chains_ne _ _ hA, set_chains_ne _ _ hB]
      exact hc A B T hne

theorem fresh_ack (h : WF w) (A B : ChainId) (s : Nat) (hs : (w.chains A).nextSeq B ≤ s) :
    (w.chains B).acks A s = none := by
  apply Classical.byContradiction
  intro hn
  have := h.rcpt A B s (h.acks A B s hn)
  omega

theorem acks_none (h : WF w) {A B : ChainId} {s : Nat} (hr : (w.chains B).receipts A s = false) :
    (w.chains B).acks A s = none := by
  apply Classical.byContradiction
  intro hn
  rw [h.acks A B s hn] at hr
  cases hr

theorem wf_set (h : WF w)
    (hpkt : ∀ q ∈ c'.commits, PktWF (w.cfg X) X c'.nextSeq q) (hkeys : KeysDistinct c'.commits)
    (hacks : ∀ A s, c'.acks A s ≠ none → c'.receipts A s = true)
    (hmono : ∀ D, (w.chains X).nextSeq D ≤ c'.nextSeq D)
    (hrcpt : ∀ A s, c'.receipts A s = true → (w.chains X).receipts A s = true ∨ s < (w.chains A).nextSeq X) :
    WF (w.set X c') := by
  refine ⟨h.cfg, ?_, ?_, ?_, ?_⟩
  · intro A q hq
    by_cases hA : A = X
    · subst hA; rw [set_chains_eq] at hq ⊢; exact hpkt q hq
    · rw [set_chains_ne _ _ hA] at hq ⊢; exact h.pkt A q hq
  · intro A
    by_cases hA : A = X
    · subst hA; rw [set_chains_eq]; exact hkeys
    · rw [set_chains_ne _ _ hA]; exact h.keys A
  · intro A B s
    by_cases hB : B = X
    · subst hB; rw [set_chains_eq]; exact hacks A s
    · rw [set_chains_ne _ _ hB]; exact h.acks A B s
  · intro A B s hr
    have key : s < (w.chains A).nextSeq B := by
      by_cases hB : B = X
      · subst hB
        rw [set_chains_eq] at hr
        exact (hrcpt A s hr).elim (h.rcpt A B s) id
      · rw [set_chains_ne _ _ hB] at hr; exact h.rcpt A B s hr
    by_cases hA : A = X
    · subst hA; rw [set_chains_eq]; exact Nat.lt_of_lt_of_le key (hmono B)
    · rw [set_chains_ne _ _ hA]; exact key

theorem nextSeq_mono {c c' : Chain} {p : Packet} (hn : c'.nextSeq = upd1 c.nextSeq p.dst (p.seq + 1))
    (hs : p.seq = c.nextSeq p.dst) (D : ChainId) : c.nextSeq D ≤ c'.nextSeq D := by
  rw [hn]; unfold upd1; split
  · next h => subst h; omega
  · exact Nat.le_refl _

theorem term_sent (h : WF w) {c' : Chain} {p : Packet}
    (e : SendEff (w.cfg X) X (w.chains X) c' p) (B : ChainId) (f : Packet → Nat) :
    term ((w.chains B).acks X) B f p = if B = p.dst then f p else 0 := by
  unfold term
  by_cases hd : p.dst = B
  · subst hd
    have := fresh_ack w h X p.dst p.seq (Nat.le_of_eq e.seq.symm)
    simp [this]
  · have : ¬ B = p.dst := fun h => hd h.symm
    simp [hd, this]

theorem term_acked {w : World} {p : Packet} {code : Nat} (X B : ChainId) (f : Packet → Nat)
    (hack : (w.chains p.dst).acks X p.seq = some code) :
    term ((w.chains B).acks X) B f p = if B = p.dst ∧ code ≠ 0 then f p else 0 := by
  unfold term
  by_cases hd : p.dst = B
  · subst hd; rw [hack]; by_cases hc0 : code = 0 <;> simp [hc0]
  · have : ¬ B = p.dst := fun h => hd h.symm
    simp [hd, this]

theorem inv_send (h : Inv w) (e : SendEff (w.cfg X) X (w.chains X) c' p) : Inv (w.set X c') := by
  obtain ⟨h, hc⟩ := h
  have mono := nextSeq_mono e.nextSeq e.seq
  refine ⟨wf_set w X c' h ?_ ?_ ?_ mono ?_, conserved_set w X c' hc ?_ ?_⟩
  · intro q hq
    rw [e.commits] at hq
    rcases List.mem_cons.mp hq with hq | hq
    · subst hq
      refine ⟨e.src, e.dst, ?_, e.ori⟩
      rw [e.nextSeq, upd1_eq]; omega
    · obtain ⟨h1, h2, h3, h4⟩ := h.pkt X q hq
      exact ⟨h1, h2, Nat.lt_of_lt_of_le h3 (mono _), h4⟩
  · -- the new packet carries the next sequence of its path, every committed one a smaller sequence
    rw [e.commits]
    refine List.pairwise_cons.mpr ⟨?_, h.keys X⟩
    intro q hq
    obtain ⟨_, _, h3, _⟩ := h.pkt X q hq
    by_cases hd : p.dst = q.dst
    · right; rw [e.seq, hd]; omega
    · left; exact hd
  · intro A s; rw [e.acks, e.receipts]; exact h.acks A X s
  · intro A s hr; rw [e.receipts] at hr; exact Or.inl hr
  · intro B T hB
    have h0 := hc X B T (Ne.symm hB)
    unfold eqn at h0 ⊢
    have ht := term_sent w X h e B (fun p => fwdAmt p T)
    have hout := e.out T B
    cases htr : (w.cfg B).trace X T with
    | none =>
      rw [htr] at h0; simp only at h0 ⊢
      rw [e.commits, flight_cons, ht, hout, h0]; omega
    | some V =>
      rw [htr] at h0; simp only at h0 ⊢
      rw [e.commits, flight_cons, e.acks, ht, hout, Nat.mul_add, Nat.mul_add, h0]; omega
  · -- X as the destination (holder of bound tokens)
    intro A T hA
    have h0 := hc A X T hA
    unfold eqn at h0 ⊢
    cases htr : (w.cfg X).trace A T with
    | none => rw [htr] at h0; simp only at h0 ⊢; rw [e.acks]; exact h0
    | some V =>
      rw [htr] at h0; simp only at h0 ⊢
      rw [e.acks, e.commits, flight_cons, h0]
      have hb := e.bind V A
      have ht := term_sent w X h e A (fun p => backAmt p V)
      rw [ht, Nat.mul_add]
      by_cases hd : A = p.dst
      · rw [if_pos hd] at hb ⊢; omega
      · rw [if_neg hd] at hb ⊢; omega

structure RecvEff (cfg : Cfg) (c c' : Chain) (p : Packet) (code : Nat) : Prop where
  commits : c'.commits = c.commits
  nextSeq : c'.nextSeq = c.nextSeq
  receipts : c'.receipts = upd2 c.receipts p.src p.seq true
  acks : c'.acks = upd2 c.acks p.src p.seq (some code)
  out : ∀ T D, c'.evm.out T D + (if D = p.src ∧ code = 0 then relAmt p T else 0) = c.evm.out T D
  bind : ∀ V D, c'.evm.bindAmt V D = c.evm.bindAmt V D + (if D = p.src ∧ code = 0 then 10 ^ cfg.scale V D * crdAmt cfg p V else 0)
  bound : code = 0 → ∀ t, p.transfer = some t → t.ori = none → cfg.trace p.src t.token ≠ none
  cred : c'.evm.credited =
    if code = 0 then upd2 c.evm.credited p.src p.seq (c.evm.credited p.src p.seq + 1) else c.evm.credited
  refd : c'.evm.refunded = c.evm.refunded
  fpd : c'.evm.feePaid = c.evm.feePaid
  feeMap : c'.evm.fee = c.evm.fee
  esc : ∀ F, c.evm.bal F acPacket ≤ c'.evm.bal F acPacket

theorem rel_eq_back (cfgS : Cfg) (hcfg : ∀ A T V, cfgS.trace A T = some V ↔ cfgS.ori V A = some T)
    (p : Packet) (hp : ∀ t, p.transfer = some t → t.ori = cfgS.ori t.token p.dst) (T V : Token)
    (htr : cfgS.trace p.dst T = some V) : relAmt p T = backAmt p V := by
  unfold relAmt backAmt
  cases ht : p.transfer with
  | none => rfl
  | some t =>
    have hiff : t.ori = some T ↔ V = t.token := by rw [hp t ht, ← hcfg, htr, Option.some.injEq]
    by_cases hv : V = t.token
    · simp [hiff.mpr hv, hv]
    · simp [hiff, hv, Ne.symm hv]

theorem rel_zero (cfgS : Cfg) (hcfg : ∀ A T V, cfgS.trace A T = some V ↔ cfgS.ori V A = some T)
    (p : Packet) (hp : ∀ t, p.transfer = some t → t.ori = cfgS.ori t.token p.dst) (T : Token)
    (htr : cfgS.trace p.dst T = none) : relAmt p T = 0 := by
  unfold relAmt
  cases ht : p.transfer with
  | none => rfl
  | some t =>
    have : t.ori ≠ some T := by rw [hp t ht, Ne, ← hcfg, htr]; exact nofun
    simp [this]

theorem crd_eq_fwd (cfgX : Cfg) (hcfg : ∀ A T V, cfgX.trace A T = some V ↔ cfgX.ori V A = some T)
    (p : Packet) (T V : Token) (htr : cfgX.trace p.src T = some V) : crdAmt cfgX p V = fwdAmt p T := by
  unfold crdAmt fwdAmt
  cases ht : p.transfer with
  | none => rfl
  | some t =>
    simp only
    by_cases hv : t.token = T
    · simp [hv, htr]
    · have : cfgX.trace p.src t.token ≠ some V := by
        rw [Ne, hcfg, (hcfg _ _ _).mp htr, Option.some.injEq]; exact Ne.symm hv
      simp [this, hv]

theorem fwd_zero (cfgX : Cfg) (p : Packet) (T : Token)
    (hb : ∀ t, p.transfer = some t → t.ori = none → cfgX.trace p.src t.token ≠ none)
    (htr : cfgX.trace p.src T = none) : fwdAmt p T = 0 := by
  unfold fwdAmt
  cases ht : p.transfer with
  | none => rfl
  | some t =>
    simp only
    have : ¬ (t.ori = none ∧ t.token = T) := fun h => hb t ht h.1 (h.2 ▸ htr)
    simp [this]

/-- a committed, not yet received packet: the acknowledgement write changes exactly its own term -/
theorem flight_ackwrite (h : WF w)
    (hp : p ∈ (w.chains p.src).commits) (hd : p.dst = X)
    (hr : (w.chains X).receipts p.src p.seq = false)
    (hacks : c'.acks = upd2 (w.chains X).acks p.src p.seq (some code)) (f : Packet → Nat) :
    flight (c'.acks p.src) X f (w.chains p.src).commits + (if code = 0 then f p else 0) =
      flight ((w.chains X).acks p.src) X f (w.chains p.src).commits := by
  have hnone := acks_none w h hr
  have := flight_change (term ((w.chains X).acks p.src) X f) (term (c'.acks p.src) X f) p
    (w.chains p.src).commits (h.keys p.src) hp (by
      intro y hy
      unfold term
      rw [hacks, upd2_app]
      by_cases hyd : y.dst = X
      · have : y.seq ≠ p.seq := hy.resolve_left (not_not_intro (hyd.trans hd.symm))
        simp [this]
      · simp [hyd])
  unfold flight
  have hg : term ((w.chains X).acks p.src) X f p = f p := by
    unfold term; simp [hd, hnone]
  have hg' : term (c'.acks p.src) X f p = (if code = 0 then 0 else f p) := by
    unfold term; rw [hacks, upd2_app]; simp [hd]
  rw [hg, hg'] at this
  by_cases hc0 : code = 0 <;> simp only [hc0, if_true, if_false] at this ⊢ <;> omega

theorem inv_recv (S : ChainId) (h : Inv w) (hp : p ∈ (w.chains S).commits) (hd : p.dst = X)
    (hr : (w.chains X).receipts p.src p.seq = false)
    (e : RecvEff (w.cfg X) (w.chains X) c' p code) : Inv (w.set X c') := by
  obtain ⟨h, hc⟩ := h
  have hp : p ∈ (w.chains p.src).commits := by rw [(h.pkt S p hp).1]; exact hp
  obtain ⟨_, hne, hseq, hori⟩ := h.pkt p.src p hp
  have hacks : ∀ B, B ≠ p.src → c'.acks B = (w.chains X).acks B := by
    intro B hB; rw [e.acks]; funext s; rw [upd2_app]; simp [hB]
  refine ⟨wf_set w X c' h ?_ ?_ ?_ ?_ ?_, conserved_set w X c' hc ?_ ?_⟩
  · rw [e.commits, e.nextSeq]; exact h.pkt X
  · rw [e.commits]; exact h.keys X
  · intro A s
    rw [e.acks, e.receipts, upd2_app, upd2_app]
    split
    · intro _; rfl
    · exact h.acks A X s
  · intro D; rw [e.nextSeq]; exact Nat.le_refl _
  · intro A s hr
    rw [e.receipts, upd2_app] at hr
    split at hr
    · next hc => right; rw [hc.1, hc.2, ← hd]; exact hseq
    · exact Or.inl hr
  · -- X as the source side of a pair: it is the origin chain releasing escrowed tokens
    intro B T hB
    have h0 := hc X B T (Ne.symm hB)
    unfold eqn at h0 ⊢
    rw [e.commits]
    have hout := e.out T B
    by_cases hBS : B = p.src
    · subst hBS
      simp only [true_and] at hout
      cases htr : (w.cfg p.src).trace X T with
      | none =>
        rw [htr] at h0; simp only at h0 ⊢
        rw [rel_zero (w.cfg p.src) (h.cfg p.src) p hori T (by rw [hd]; exact htr)] at hout
        simp only [ite_self, Nat.add_zero] at hout
        rw [hout]; exact h0
      | some V =>
        -- what is released is what the packet burnt on the other side, and it leaves the flight at the same moment
        rw [htr] at h0; simp only at h0 ⊢
        rw [rel_eq_back (w.cfg p.src) (h.cfg p.src) p hori T V (by rw [hd]; exact htr)] at hout
        have m1 := mul_of_add (k := 10 ^ (w.cfg p.src).scale V X) hout
        have m2 := mul_of_add (k := 10 ^ (w.cfg p.src).scale V X)
          (flight_ackwrite w X c' p code h hp hd hr e.acks (fun q => backAmt q V))
        omega
    · simp [hBS] at hout
      rw [hout, hacks B hBS]; exact h0
  · -- X as the destination side of a pair: it mints bound tokens
    intro A T hA
    have h0 := hc A X T hA
    unfold eqn at h0 ⊢
    rw [e.commits]
    by_cases hAS : A = p.src
    · subst hAS
      have hfl := flight_ackwrite w X c' p code h hp hd hr e.acks (fun q => fwdAmt q T)
      cases htr : (w.cfg X).trace p.src T with
      | none =>
        rw [htr] at h0; simp only at h0 ⊢
        have : (if code = 0 then fwdAmt p T else 0) = 0 := by
          split
          · next hc0 => exact fwd_zero (w.cfg X) p T (e.bound hc0) htr
          · rfl
        omega
      | some V =>
        rw [htr] at h0; simp only at h0 ⊢
        have hb := e.bind V p.src
        rw [crd_eq_fwd (w.cfg X) (h.cfg X) p T V htr] at hb
        have m2 := mul_of_add (k := 10 ^ (w.cfg X).scale V p.src) hfl
        by_cases hc0 : code = 0 <;> simp [hc0] at hb m2 <;> omega
    · have hb : ∀ V, c'.evm.bindAmt V A = (w.chains X).evm.bindAmt V A := fun V => by simpa [hAS] using e.bind V A
      simp only [hb, hacks A hAS]; exact h0

structure AckEff (cfg : Cfg) (c c' : Chain) (p : Packet) (code : Nat) : Prop where
  mem : p ∈ c.commits
  commits : c'.commits = c.commits.erase p
  nextSeq : c'.nextSeq = c.nextSeq
  receipts : c'.receipts = c.receipts
  acks : c'.acks = c.acks
  out : ∀ T D, c'.evm.out T D + (if D = p.dst ∧ code ≠ 0 then fwdAmt p T else 0) = c.evm.out T D
  bind : ∀ V D, c'.evm.bindAmt V D = c.evm.bindAmt V D + (if D = p.dst ∧ code ≠ 0 then 10 ^ cfg.scale V D * backAmt p V else 0)
  cred : c'.evm.credited = c.evm.credited
  refd : c'.evm.refunded =
    if code = 0 then c.evm.refunded else upd2 c.evm.refunded p.dst p.seq (c.evm.refunded p.dst p.seq + 1)
  fpd : c'.evm.feePaid = upd2 c.evm.feePaid p.dst p.seq (c.evm.feePaid p.dst p.seq + 1)
  feeMap : c'.evm.fee = c.evm.fee
  esc : ∀ F, c.evm.bal F acPacket ≤ c'.evm.bal F acPacket + feeAt c.evm p F

theorem inv_ack (h : Inv w) (hack : (w.chains p.dst).acks X p.seq = some code)
    (e : AckEff (w.cfg X) (w.chains X) c' p code) : Inv (w.set X c') := by
  obtain ⟨h, hc⟩ := h
  refine ⟨wf_set w X c' h ?_ ?_ ?_ ?_ ?_, conserved_set w X c' hc ?_ ?_⟩
  · intro q hq
    rw [e.commits] at hq
    rw [e.nextSeq]; exact h.pkt X q (List.mem_of_mem_erase hq)
  · rw [e.commits]; exact List.Pairwise.sublist List.erase_sublist (h.keys X)
  · intro A s; rw [e.acks, e.receipts]; exact h.acks A X s
  · intro D; rw [e.nextSeq]; exact Nat.le_refl _
  · intro A s hr; rw [e.receipts] at hr; exact Or.inl hr
  · intro B T hB
    have h0 := hc X B T (Ne.symm hB)
    unfold eqn at h0 ⊢
    have hfl := flight_erase ((w.chains B).acks X) B (fun q => fwdAmt q T) p _ e.mem
    have hout := e.out T B
    have hterm := term_acked X B (fun q => fwdAmt q T) hack
    rw [hterm] at hfl
    cases htr : (w.cfg B).trace X T with
    | none =>
      rw [htr] at h0; simp only at h0 ⊢
      rw [e.commits]; omega
    | some V =>
      rw [htr] at h0; simp only at h0 ⊢
      rw [e.commits, e.acks]
      have m1 := mul_of_add (k := 10 ^ (w.cfg B).scale V X) hfl
      have m2 := mul_of_add (k := 10 ^ (w.cfg B).scale V X) hout
      omega
  · intro A T hA
    have h0 := hc A X T hA
    unfold eqn at h0 ⊢
    rw [e.acks]
    cases htr : (w.cfg X).trace A T with
    | none => rw [htr] at h0; exact h0
    | some V =>
      rw [htr] at h0; simp only at h0 ⊢
      rw [e.commits]
      have hfl := flight_erase ((w.chains A).acks X) A (fun q => backAmt q V) p _ e.mem
      have hb := e.bind V A
      have hterm := term_acked X A (fun q => backAmt q V) hack
      rw [hterm] at hfl
      have m1 := mul_of_add (k := 10 ^ (w.cfg X).scale V A) hfl
      by_cases hk : A = p.dst ∧ code ≠ 0
      · rw [if_pos hk] at hb m1; omega
      · rw [if_neg hk] at hb m1; omega

end

/-- nothing the bridge bookkeeping looks at changes; the packet contract's balances do not decrease -/
structure BridgeLe (e e' : Evm) : Prop where
  out : e'.out = e.out
  bindAmt : e'.bindAmt = e.bindAmt
  credited : e'.credited = e.credited
  refunded : e'.refunded = e.refunded
  feePaid : e'.feePaid = e.feePaid
  fee : e'.fee = e.fee
  bal : ∀ F, e.bal F acPacket ≤ e'.bal F acPacket

theorem BridgeLe.refl (e : Evm) : BridgeLe e e := ⟨rfl, rfl, rfl, rfl, rfl, rfl, fun _ => Nat.le_refl _⟩

theorem debit_some {e e' : Evm} {t : Token} {a : Acct} {n : Nat} (h : debit e t a n = some e') :
    e' = { e with bal := upd2 e.bal t a (e.bal t a - n) } := by
  unfold debit at h
  split at h
  · cases h
  · exact (Option.some.inj h).symm

theorem credit_bal_le (e : Evm) (t : Token) (a : Acct) (n : Nat) (F : Token) (x : Acct) :
    e.bal F x ≤ (credit e t a n).bal F x := by
  simp only [credit, upd2_app]
  split
  · next hc => rw [hc.1, hc.2]; exact Nat.le_add_right _ _
  · exact Nat.le_refl _

theorem debit_credit_bridgeLe {e e1 : Evm} {t t' : Token} {a b : Acct} {n m : Nat}
    (h : debit e t a n = some e1) (ha : a ≠ acPacket) : BridgeLe e (credit e1 t' b m) := by
  have := debit_some h
  subst this
  refine ⟨rfl, rfl, rfl, rfl, rfl, rfl, fun F => Nat.le_trans ?_ (credit_bal_le _ _ _ _ _ _)⟩
  show e.bal F acPacket ≤ upd2 e.bal t a (e.bal t a - n) F acPacket
  rw [upd2_app, if_neg (fun hc => ha hc.2.symm)]
  exact Nat.le_refl _

/-- `w'` differs from `w` only in what no invariant looks at: the relayer registry, the relayer names written into
acknowledgements, the callback switch and, per chain, an EVM change that the bridge bookkeeping does not see -/
structure SameBridge (w w' : World) : Prop where
  cfg : w'.cfg = w.cfg
  commits : ∀ Y, (w'.chains Y).commits = (w.chains Y).commits
  nextSeq : ∀ Y, (w'.chains Y).nextSeq = (w.chains Y).nextSeq
  receipts : ∀ Y, (w'.chains Y).receipts = (w.chains Y).receipts
  acks : ∀ Y, (w'.chains Y).acks = (w.chains Y).acks
  evm : ∀ Y, BridgeLe (w.chains Y).evm (w'.chains Y).evm

theorem SameBridge.of_eq {w w' : World} (hc : w'.cfg = w.cfg) (hch : w'.chains = w.chains) : SameBridge w w' :=
  ⟨hc, fun Y => by rw [hch], fun Y => by rw [hch], fun Y => by rw [hch], fun Y => by rw [hch],
    fun Y => by rw [hch]; exact BridgeLe.refl _⟩

theorem SameBridge.set (w : World) (X : ChainId) {e' : Evm} (hle : BridgeLe (w.chains X).evm e') :
    SameBridge w (w.set X { (w.chains X) with evm := e' }) := by
  refine ⟨rfl, ?_, ?_, ?_, ?_, ?_⟩
  · exact set_proj w X _ (·.commits) rfl
  · exact set_proj w X _ (·.nextSeq) rfl
  · exact set_proj w X _ (·.receipts) rfl
  · exact set_proj w X _ (·.acks) rfl
  · intro Y
    by_cases h : Y = X
    · subst h; rw [set_chains_eq]; exact hle
    · rw [set_chains_ne _ _ h]; exact BridgeLe.refl _

/-- two EVM states that agree on everything the bridge bookkeeping looks at (they may differ in allowances,
agent data, supplies, ack status) -/
structure BridgeEq (e e' : Evm) : Prop where
  out : e'.out = e.out
  bindAmt : e'.bindAmt = e.bindAmt
  credited : e'.credited = e.credited
  refunded : e'.refunded = e.refunded
  feePaid : e'.feePaid = e.feePaid
  fee : e'.fee = e.fee
  bal : e'.bal = e.bal

section
variable {cfg : Cfg} {me : ChainId} {c c' : Chain} {e e' : Evm} {p : Packet} {code : Nat} {rel : Option Acct}

theorem pull_some {t : Token} {a : Acct} {n : Nat} (h : pull e t a n = some e') :
    ∃ al, e' = { e with allow := al, bal := upd2 e.bal t a (e.bal t a - n) } := by
  unfold pull spend at h
  by_cases ht : t = 0
  · simp only [ht, ↓reduceIte] at h ⊢
    exact ⟨e.allow, debit_some h⟩
  · simp only [ht, ↓reduceIte] at h ⊢
    split at h
    · cases h
    · rename_i e1 hs
      split at hs
      · cases hs
      · split at hs
        · have := (Option.some.inj hs).symm
          subst this
          exact ⟨_, debit_some h⟩
        · have := (Option.some.inj hs).symm
          subst this
          have := debit_some h
          exact ⟨_, this⟩

theorem sendKeeper_some (h : sendKeeper cfg c p = some c') :
    cfg.clients p.dst = true ∧ p.seq = c.nextSeq p.dst ∧
    c' = { c with nextSeq := upd1 c.nextSeq p.dst (p.seq + 1), commits := p :: c.commits } := by
  unfold sendKeeper at h
  by_cases hg : cfg.clients p.dst = true ∧ p.seq = c.nextSeq p.dst ∧ p.seq + 1 < U64
  · rw [if_pos hg] at h; cases h; exact ⟨hg.1, hg.2.1, rfl⟩
  · rw [if_neg hg] at h; cases h

/-- The contract part of a send followed by the keeper's hook is a complete send. The caller may have changed the
allowances before and the agent's records after the contract part (the agent contract does both): neither is looked at. -/
theorem sendEvm_eff {seq : Nat} {e2 : Evm} {sender : Acct} {a : SendArgs}
    (hs : sender ≠ acPacket) (al : Token → Acct → Nat) (ad : ChainId → Nat → Option (Token × Nat × Acct))
    (h : sendEvm cfg me seq { c.evm with allow := al } sender a = some (e2, p))
    (hk : sendKeeper cfg { c with evm := { e2 with agentData := ad } } p = some c') :
    p.dst = a.dst ∧ SendEff cfg me c c' p := by
  obtain ⟨_, hseq, rfl⟩ := sendKeeper_some hk
  unfold sendEvm at h
  by_cases hme : a.dst = me
  · rw [if_pos hme] at h; cases h
  by_cases hz : a.amount = 0 ∧ a.call = Call.none
  · rw [if_neg hme, if_pos hz] at h; cases h
  rw [if_neg hme, if_neg hz] at h
  generalize hfee : pull _ a.feeToken sender a.feeAmount = r at h
  cases r with
  | none => cases h
  | some e1 =>
  obtain ⟨al1, h1⟩ := pull_some hfee
  subst h1
  simp only at h
  generalize hef : credit _ a.feeToken acPacket a.feeAmount = ef at h
  -- the fee is in the packet contract's escrow before the transfer part runs, and that part does not take it out again
  have hesc : ∀ (e' : Evm) (p : Packet) F, e'.fee p.dst p.seq = (a.feeToken, a.feeAmount) →
      ef.bal F acPacket ≤ e'.bal F acPacket → c.evm.bal F acPacket + feeAt e' p F ≤ e'.bal F acPacket := by
    intro e' p F hf hb
    refine Nat.le_trans (Nat.le_of_eq ?_) hb
    subst hef
    simp only [feeAt, hf, credit, upd2_app, and_true]
    by_cases hF : F = a.feeToken
    · subst hF; simp [hs.symm]
    · simp [hF, Ne.symm hF]
  subst hef
  by_cases h0 : a.amount = 0
  · rw [if_pos h0] at h
    cases h
    refine ⟨rfl, rfl, rfl, rfl, rfl, hseq, rfl, hme, ?_, ?_, ?_, rfl, rfl, rfl, ?_, ?_⟩
    · intro t ht; cases ht
    · intro T D; simp [fwdAmt, credit]
    · intro V D; simp [backAmt, credit]
    · intro D q hk; exact upd2_ne _ _ hk
    · exact fun F => hesc _ _ F (upd2_self _ _ _ _) (Nat.le_refl _)
  rw [if_neg h0] at h
  cases ho : cfg.ori a.token a.dst with
  | some o =>
    rw [ho] at h
    simp only at h
    split at h
    · cases h
    rename_i hliq
    generalize hdeb : pull _ a.token sender _ = r at h
    cases r with
    | none => cases h
    | some e2 =>
    obtain ⟨al2, h2⟩ := pull_some hdeb
    subst h2
    cases h
    refine ⟨rfl, rfl, rfl, rfl, rfl, hseq, rfl, hme, ?_, ?_, ?_, rfl, rfl, rfl, ?_, ?_⟩
    · intro t ht; cases ht; exact ho.symm
    · intro T D; simp [fwdAmt, credit]
    · intro V D
      have := upd2_sub c.evm.bindAmt a.token a.dst (a.amount * 10 ^ cfg.scale a.token a.dst) V D (Nat.le_of_not_lt hliq)
      refine Eq.trans ?_ this
      simp [backAmt, credit]
      by_cases hD : D = a.dst <;> by_cases hV : a.token = V <;> simp [hD, hV, Nat.mul_comm]
    · intro D q hk; exact upd2_ne _ _ hk
    · exact fun F => hesc _ _ F (upd2_self _ _ _ _) (Nat.le_of_eq (upd2_ne _ _ (fun hc => hs hc.2.symm)).symm)
  | none =>
    rw [ho] at h
    simp only at h
    generalize hdeb : pull _ a.token sender _ = r at h
    cases r with
    | none => cases h
    | some e2 =>
    obtain ⟨al2, h2⟩ := pull_some hdeb
    subst h2
    cases h
    refine ⟨rfl, rfl, rfl, rfl, rfl, hseq, rfl, hme, ?_, ?_, ?_, rfl, rfl, rfl, ?_, ?_⟩
    · intro t ht; cases ht; exact ho.symm
    · intro T D
      simp [fwdAmt, credit, upd2_add]
    · intro V D; simp [backAmt, credit]
    · intro D q hk; exact upd2_ne _ _ hk
    · refine fun F => hesc _ _ F (upd2_self _ _ _ _) (Nat.le_trans (Nat.le_of_eq ?_) (credit_bal_le _ _ _ _ _ _))
      exact (upd2_ne _ _ (fun hc => hs hc.2.symm)).symm

theorem send_eff {sender : Acct} {a : SendArgs}
    (h : send cfg me c sender a = some c') : ∃ p, SendEff cfg me c c' p := by
  unfold send at h
  by_cases hs : sender = acEndpoint ∨ sender = acPacket
  · rw [if_pos hs] at h; cases h
  rw [if_neg hs] at h
  cases hse : sendEvm cfg me (c.nextSeq a.dst) c.evm sender a with
  | none => rw [hse] at h; cases h
  | some r =>
    rw [hse] at h
    exact ⟨r.2, (sendEvm_eff (fun h => hs (Or.inr h)) c.evm.allow r.1.agentData hse h).2⟩

/-- `ctxOf c p` is `ctx` after `PacketKeeper.RecvPacket` (receipt written); the callback runs on a branch of it. -/
def ctxOf (c : Chain) (p : Packet) : Chain := { c with receipts := upd2 c.receipts p.src p.seq true }
def withAck (x : Chain) (p : Packet) (code : Nat) : Chain := { x with acks := upd2 x.acks p.src p.seq (some code) }

theorem recvTransfer_eff {e1 : Evm} {tok : Token} {k : Nat}
    (h : recvTransfer cfg c.evm p = some (e1, tok, k)) :
    RecvEff cfg c (withAck { ctxOf c p with evm := e1 } p 0) p 0 := by
  unfold recvTransfer at h
  cases ht : p.transfer with
  | none =>
    rw [ht] at h
    cases h
    refine ⟨rfl, rfl, rfl, rfl, ?_, ?_, fun _ => ?_, rfl, rfl, rfl, rfl, fun F => Nat.le_refl _⟩
    · intro T D; simp [withAck, ctxOf, relAmt, ht]
    · intro V D; simp [withAck, ctxOf, crdAmt, ht]
    · intro t h1; rw [ht] at h1; cases h1
  | some t =>
    rw [ht] at h
    simp only at h
    cases hori : t.ori with
    | none =>
      rw [hori] at h
      simp only at h
      cases hv : cfg.trace p.src t.token with
      | none => rw [hv] at h; cases h
      | some v =>
        rw [hv] at h
        simp only at h
        by_cases hov : U256 ≤ c.evm.supply v + t.amount * 10 ^ cfg.scale v p.src
        · rw [if_pos hov] at h; cases h
        rw [if_neg hov] at h
        cases h
        refine ⟨rfl, rfl, rfl, rfl, ?_, ?_, fun _ => ?_, rfl, rfl, rfl, rfl, fun F => credit_bal_le _ _ _ _ F _⟩
        · intro T D; simp [withAck, ctxOf, relAmt, ht, hori, credit]
        · intro V D
          simp [withAck, ctxOf, crdAmt, ht, hori, hv, credit, upd2_add]
          by_cases hD : D = p.src <;> by_cases hV : tok = V <;> simp [hD, hV, Nat.mul_comm]
        · intro t' h1 _
          rw [ht] at h1; cases h1
          rw [hv]; exact Option.some_ne_none tok
    | some o =>
      rw [hori] at h
      simp only at h
      by_cases hlock : c.evm.out o p.src < t.amount
      · rw [if_pos hlock] at h; cases h
      rw [if_neg hlock] at h
      generalize hdeb : debit c.evm o acEndpoint t.amount = r at h
      cases r with
      | none => cases h
      | some e2 =>
      have hbal := (debit_credit_bridgeLe (t' := o) (b := t.receiver) (m := t.amount) hdeb (by decide)).bal
      have h2 := debit_some hdeb
      subst h2
      cases h
      refine ⟨rfl, rfl, rfl, rfl, ?_, ?_, fun _ => ?_, rfl, rfl, rfl, rfl, hbal⟩
      · intro T D
        have := upd2_sub c.evm.out tok p.src t.amount T D (Nat.le_of_not_lt hlock)
        simpa [withAck, ctxOf, relAmt, ht, hori, credit] using this
      · intro V D; simp [withAck, ctxOf, crdAmt, ht, hori, credit]
      · intro t' h1 h2
        rw [ht] at h1; cases h1
        rw [hori] at h2; cases h2

theorem onRecv_spec (cfg : Cfg) (me : ChainId) (c : Chain) (p : Packet) :
    match onRecv cfg me c p with
    | .ok c2 =>
      ∃ e tok k, recvTransfer cfg c.evm p = some (e, tok, k) ∧
        (c2 = { c with evm := e } ∨ ∃ p2, SendEff cfg me { c with evm := e } c2 p2)
    | .errorResult code _ => code ≠ 0
    | _ => True := by
  unfold onRecv
  cases hrt : recvTransfer cfg c.evm p with
  | none => exact Nat.succ_ne_zero 1
  | some r =>
  obtain ⟨e, tok, k⟩ := r
  simp only
  by_cases hb : blockedRelease p = true ∧ p.call ≠ .plain .revert
  · rw [if_pos hb]; trivial
  rw [if_neg hb]
  cases p.call with
  | none => exact ⟨e, tok, k, rfl, Or.inl rfl⟩
  | plain kd =>
    cases kd with
    | ok => exact ⟨e, tok, k, rfl, Or.inl rfl⟩
    | fail => exact Nat.succ_ne_zero 2
    | revert => trivial
    | hookFail => trivial
  | agent refund recv dst fee =>
    simp only
    cases p.transfer with
    | none => exact Nat.succ_ne_zero 2
    | some t =>
    simp only
    by_cases hg : t.receiver ≠ acAgent ∨ t.amount < fee
    · rw [if_pos hg]; exact Nat.succ_ne_zero 2
    rw [if_neg hg]
    cases hs : sendEvm cfg me (c.nextSeq dst) _ acAgent _ with
    | none => exact Nat.succ_ne_zero 2
    | some r2 =>
    obtain ⟨e2, p2⟩ := r2
    simp only
    cases hk : sendKeeper cfg _ p2 with
    | none => trivial
    | some c2 =>
      exact ⟨e, tok, k, rfl, Or.inr ⟨p2, (sendEvm_eff (c := { c with evm := e }) (by decide) _ _ hs hk).2⟩⟩

theorem onRecv_err {c2 : Chain}
    (h : onRecv cfg me c p = .errorResult code c2) : code ≠ 0 := by
  have := onRecv_spec cfg me c p
  rwa [h] at this

theorem onRecv_ok {c2 : Chain}
    (h : onRecv cfg me c p = .ok c2) :
    ∃ e tok k, recvTransfer cfg c.evm p = some (e, tok, k) ∧
      (c2 = { c with evm := e } ∨ ∃ p2, SendEff cfg me { c with evm := e } c2 p2) := by
  have := onRecv_spec cfg me c p
  rwa [h] at this

/-- `OnAcknowledgePacket`, as a fact about the code: nothing for code 0, the refund otherwise -/
theorem refund_eff
    (h : (if code = 0 then some e else refund cfg e p) = some e') :
    (∀ T D, e'.out T D + (if D = p.dst ∧ code ≠ 0 then fwdAmt p T else 0) = e.out T D) ∧
    (∀ V D, e'.bindAmt V D = e.bindAmt V D + (if D = p.dst ∧ code ≠ 0 then 10 ^ cfg.scale V D * backAmt p V else 0)) ∧
    e'.credited = e.credited ∧
    e'.refunded = (if code = 0 then e.refunded else upd2 e.refunded p.dst p.seq (e.refunded p.dst p.seq + 1)) ∧
    e'.feePaid = e.feePaid ∧ e'.fee = e.fee ∧ (∀ F, e.bal F acPacket ≤ e'.bal F acPacket) ∧
    e'.ackStatus = e.ackStatus ∧ (code ≠ 0 → p.transfer ≠ none) := by
  by_cases hc : code = 0
  · rw [if_pos hc] at h
    cases h
    simp [hc]
  rw [if_neg hc] at h
  unfold refund at h
  cases ht : p.transfer with
  | none => rw [ht] at h; cases h
  | some t =>
    rw [ht] at h
    simp only at h
    cases hori : t.ori with
    | some o =>
      rw [hori] at h
      simp only at h
      by_cases hov : U256 ≤ e.supply t.token + t.amount * 10 ^ cfg.scale t.token p.dst
      · rw [if_pos hov] at h; cases h
      rw [if_neg hov] at h
      cases h
      refine ⟨?_, ?_, rfl, (if_neg hc).symm, rfl, rfl, fun F => credit_bal_le _ _ _ _ F _, rfl, fun _ => Option.some_ne_none t⟩
      · intro T D; simp [hc, fwdAmt, ht, hori, credit]
      · intro V D
        simp [hc, backAmt, ht, hori, credit, upd2_add]
        by_cases hD : D = p.dst <;> by_cases hV : t.token = V <;> simp [hD, hV, Nat.mul_comm]
    | none =>
      rw [hori] at h
      simp only at h
      by_cases hlock : e.out t.token p.dst < t.amount
      · rw [if_pos hlock] at h; cases h
      rw [if_neg hlock] at h
      generalize hdeb : debit e t.token acEndpoint t.amount = r at h
      cases r with
      | none => cases h
      | some e2 =>
      have hbal := (debit_credit_bridgeLe (t' := t.token) (b := p.sender) (m := t.amount) hdeb (by decide)).bal
      have h2 := debit_some hdeb
      subst h2
      cases h
      refine ⟨?_, ?_, rfl, (if_neg hc).symm, rfl, rfl, hbal, rfl, fun _ => Option.some_ne_none t⟩
      · intro T D
        have := upd2_sub e.out t.token p.dst t.amount T D (Nat.le_of_not_lt hlock)
        simpa [hc, fwdAmt, ht, hori, credit] using this
      · intro V D; simp [hc, backAmt, ht, hori, credit]

theorem agentCallback_eff (h : agentCallback e p = some e') :
    BridgeLe e e' ∧ e'.ackStatus = e.ackStatus := by
  unfold agentCallback at h
  split at h
  · cases h
  split at h
  · cases h
  rename_i e2 hdeb
  have he := (Option.some.inj h).symm
  subst he
  refine ⟨debit_credit_bridgeLe hdeb (by decide), ?_⟩
  have h2 := debit_some hdeb
  subst h2
  rfl

theorem debit_le {t : Token} {a : Acct} {n : Nat} (h : debit e t a n = some e') : n ≤ e.bal t a := by
  unfold debit at h
  split at h
  · cases h
  · omega

/-- `msg_server.Acknowledgement`: the fee goes from the packet contract to the relayer, then the settlement by
the code, then the callback; the status written first survives all of it -/
theorem ackHandler_eff
    (h : ackHandler cfg me c p code rel = some c') :
    p.src = me ∧ AckEff cfg c c' p code ∧ c'.evm.ackStatus p.dst p.seq = (if code = 0 then 1 else 2) ∧
    rel ≠ none ∧ (code ≠ 0 → p.transfer ≠ none) := by
  unfold ackHandler at h
  by_cases hsrc : p.src = me
  case neg => rw [if_pos hsrc] at h; cases h
  by_cases hmem : p ∈ c.commits
  case neg => rw [if_neg (not_not_intro hsrc), if_pos hmem] at h; cases h
  rw [if_neg (not_not_intro hsrc), if_neg (not_not_intro hmem)] at h
  cases hcl : cfg.clients p.dst
  · simp only [hcl, Bool.not_false, if_true] at h; cases h
  cases rel with
  | none => simp only [hcl, Bool.not_true, Bool.false_eq_true, if_false] at h; cases h
  | some relayer =>
  simp only [hcl, Bool.not_true, Bool.false_eq_true, if_false] at h
  generalize hdeb : debit _ _ _ _ = r1 at h
  cases r1 with
  | none => cases h
  | some e1 =>
  simp only at h
  generalize hr : (if code = 0 then some _ else refund cfg _ p) = r2 at h
  cases r2 with
  | none => cases h
  | some e2 =>
  simp only at h
  generalize hr2 : (if p.callback = true ∧ code ≠ 0 then agentCallback e2 p else some e2) = r3 at h
  cases r3 with
  | none => cases h
  | some e3 =>
  cases h
  have hle := debit_le hdeb
  have h1 := debit_some hdeb
  subst h1
  obtain ⟨so, sb, sc, sr, sf, sfee, sbal, sst, str⟩ := refund_eff hr
  have ⟨cle, cst⟩ : BridgeLe e2 e3 ∧ e3.ackStatus = e2.ackStatus := by
    by_cases hcb : p.callback = true ∧ code ≠ 0
    · rw [if_pos hcb] at hr2; exact agentCallback_eff hr2
    · rw [if_neg hcb] at hr2; cases hr2; exact ⟨BridgeLe.refl _, rfl⟩
  refine ⟨hsrc, ⟨hmem, rfl, rfl, rfl, rfl, ?_, ?_, ?_, ?_, ?_, ?_, ?_⟩, ?_, Option.some_ne_none _, str⟩
  · intro T D; show e3.out T D + _ = _; rw [cle.out]; exact so T D
  · intro V D; show e3.bindAmt V D = _; rw [cle.bindAmt]; exact sb V D
  · exact cle.credited.trans sc
  · exact cle.refunded.trans sr
  · exact cle.feePaid.trans sf
  · exact cle.fee.trans sfee
  · intro F
    have hpay := upd2_sub c.evm.bal (c.evm.fee p.dst p.seq).1 acPacket (c.evm.fee p.dst p.seq).2 F acPacket hle
    rw [if_pos rfl] at hpay
    have hb := Nat.le_trans (sbal F) (cle.bal F)
    simp only [credit, upd2_add] at hb
    unfold feeAt
    dsimp only at hle hb ⊢
    omega
  · show e3.ackStatus p.dst p.seq = _
    rw [cst, sst]
    simp [credit, upd2]

theorem ack_eff
    (h : ackHandler cfg me c p code rel = some c') : p.src = me ∧ AckEff cfg c c' p code :=
  ⟨(ackHandler_eff h).1, (ackHandler_eff h).2.1⟩

theorem ackMsg_some {cb : Bool}
    (h : ackMsg cfg me c p code rel cb = some c') :
    ackHandler cfg me c p code rel = some c' ∧ ¬ (p.cbSwitch = true ∧ cb = true) := by
  unfold ackMsg at h
  split at h
  · cases h
  · rename_i hn
    split at h
    · cases h
    · exact ⟨h, hn⟩

theorem ackMsg_of_handler_none {cb : Bool}
    (h : ackHandler cfg me c p code rel = none) : ackMsg cfg me c p code rel cb = none := by
  unfold ackMsg; split
  · rfl
  · split
    · rfl
    · exact h


/-- the receive is accepted at all: packet for this chain, not yet received, client of the source exists -/
def RecvAccepts (cfg : Cfg) (me : ChainId) (c : Chain) (p : Packet) : Prop :=
  p.dst = me ∧ c.receipts p.src p.seq = false ∧ cfg.clients p.src = true

theorem withAck_acks (x : Chain) (p : Packet) (code : Nat) : (withAck x p code).acks p.src p.seq = some code :=
  upd2_self _ _ _ _

/-- the acknowledgement code `msg_server.RecvPacket` writes for an outcome of the callback -/
def Cb.ackCode : Cb → Nat
  | .ok _ => 0
  | .errorResult code _ => code
  | _ => 1

/-- the state the handler keeps for an outcome of the callback: the callback's own state after a success; otherwise the
repaired handler drops the cache context and is left with `ctx`, the unrepaired one ran the callback on `ctx` itself -/
def Cb.kept (fixed : Bool) (ctx : Chain) : Cb → Chain
  | .ok c2 => c2
  | .evmRevert => ctx
  | .errorResult _ c2 => if fixed then ctx else c2
  | .hookFail c2 => if fixed then ctx else c2
  | .commitFail c2 => if fixed then ctx else c2

theorem Cb.kept_of_code_ne_zero {r : Cb} (ctx : Chain) (h : r.ackCode ≠ 0) : r.kept true ctx = ctx := by
  cases r with
  | ok c2 => exact absurd rfl h
  | _ => rfl

theorem recv_accepts {fixed : Bool}
    (h : recvHandler fixed cfg me c p = some c') : RecvAccepts cfg me c p := by
  unfold recvHandler at h
  by_cases h1 : p.dst = me
  case neg => rw [if_pos h1] at h; cases h
  cases h2 : c.receipts p.src p.seq
  case true => rw [if_neg (not_not_intro h1), h2, if_pos rfl] at h; cases h
  cases h3 : cfg.clients p.src
  case false => rw [if_neg (not_not_intro h1), h2, h3] at h; cases h
  exact ⟨h1, h2, h3⟩

/-- both versions of `msg_server.RecvPacket` in one equation: the receipt, then the callback, then the acknowledgement
with the outcome's code on the state kept -/
theorem recvHandler_eq (fixed : Bool) (ha : RecvAccepts cfg me c p) :
    recvHandler fixed cfg me c p =
      some (withAck ((onRecv cfg me (ctxOf c p) p).kept fixed (ctxOf c p)) p (onRecv cfg me (ctxOf c p) p).ackCode) := by
  obtain ⟨h1, h2, h3⟩ := ha
  unfold recvHandler ctxOf withAck
  simp only [h1, h2, h3, ne_eq, not_true_eq_false, Bool.false_eq_true, Bool.not_true, if_false]
  generalize onRecv cfg me _ p = r
  cases fixed <;> cases r <;> rfl

theorem onRecv_code_zero (h : (onRecv cfg me c p).ackCode = 0) :
    ∃ c2, onRecv cfg me c p = .ok c2 := by
  cases hr : onRecv cfg me c p with
  | ok c2 => exact ⟨c2, rfl⟩
  | errorResult code c2 => rw [hr] at h; exact absurd h (onRecv_err hr)
  | _ => rw [hr] at h; exact absurd h (Nat.succ_ne_zero 0)

theorem recvEff_error (cfg : Cfg) (c : Chain) (p : Packet) (hc : code ≠ 0) :
    RecvEff cfg c (withAck (ctxOf c p) p code) p code := by
  refine ⟨rfl, rfl, rfl, rfl, ?_, ?_, fun h0 => absurd h0 hc, ?_, rfl, rfl, rfl, fun F => Nat.le_refl _⟩
  · intro T D; simp [hc, withAck, ctxOf]
  · intro V D; simp [hc, withAck, ctxOf]
  · simp [hc, withAck, ctxOf]

theorem recv_eff
    (h : recvHandler true cfg me c p = some c') :
    p.dst = me ∧ c.receipts p.src p.seq = false ∧
    ∃ code cR, RecvEff cfg c cR p code ∧ (c' = cR ∨ ∃ p2, SendEff cfg me cR c' p2) := by
  have ha := recv_accepts h
  rw [recvHandler_eq true ha] at h
  cases h
  refine ⟨ha.1, ha.2.1, ?_⟩
  by_cases hc : (onRecv cfg me (ctxOf c p) p).ackCode = 0
  · obtain ⟨c2, hcb⟩ := onRecv_code_zero hc
    rw [hcb]
    obtain ⟨e, tok, k, hrt, hcase⟩ := onRecv_ok hcb
    refine ⟨0, _, recvTransfer_eff (c := c) hrt, ?_⟩
    rcases hcase with h1 | ⟨p2, key⟩
    · left; subst h1; rfl
    · -- the agent forwarded the tokens: a complete send on top of the receive
      right
      refine ⟨p2, { key with acks := ?_ }⟩
      show upd2 c2.acks p.src p.seq (some 0) = _
      rw [key.acks]; rfl
  · rw [Cb.kept_of_code_ne_zero _ hc]
    exact ⟨_, _, recvEff_error cfg c p hc, Or.inl rfl⟩

end

/-! ### batched sends: one transaction, several `crossChainCall`s (all legs committed, or nothing) -/

/-- the interleaved reading of a batch: each leg's EVM part (with the sequence numbers read at the START of the
transaction) immediately followed by its hook -/
def batchI (cfg : Cfg) (self : ChainId) (seq0 : ChainId → Nat) (strict : Bool) : Chain → List Leg → Option Chain
  | c, [] => some c
  | c, .approve t n :: ls =>
    batchI cfg self seq0 strict { c with evm := { c.evm with allow := upd2 c.evm.allow t acForwarder n } } ls
  | c, .send a :: ls =>
    match sendEvm cfg self (seq0 a.dst) c.evm acForwarder a with
    | none => if strict then none else batchI cfg self seq0 strict c ls
    | some (e1, p) =>
      match sendKeeper cfg { c with evm := e1 } p with
      | none => none
      | some c1 => batchI cfg self seq0 strict c1 ls
  | c, .fakelog _ :: ls => batchI cfg self seq0 strict c ls     -- a look-alike log of another contract: not a packet

theorem hookPackets_packet (p : Packet) (logs : List SentLog) : hookPackets ((acPacket, p) :: logs) = p :: hookPackets logs := by
  simp [hookPackets]
theorem hookPackets_foreign (a : Acct) (p : Packet) (logs : List SentLog) (h : a ≠ acPacket) :
    hookPackets ((a, p) :: logs) = hookPackets logs := by
  simp [hookPackets, h]

/-- the transaction as `ApplyTransaction` runs it: the whole EVM execution first, then the hook over all events -/
def twoPhase (cfg : Cfg) (self : ChainId) (seq0 : ChainId → Nat) (strict : Bool) (c : Chain) (legs : List Leg) : Option Chain :=
  match batchEvm cfg self seq0 strict c.evm legs with
  | none => none
  | some (e, logs) => batchKeeper cfg { c with evm := e } (hookPackets logs)

theorem sendKeeper_evm (cfg : Cfg) (c : Chain) (p : Packet) (e e' : Evm) :
    sendKeeper cfg { c with evm := e' } p = (sendKeeper cfg { c with evm := e } p).map (fun c1 => { c1 with evm := e' }) := by
  unfold sendKeeper
  split <;> rfl

/-- **EVM-then-hooks = leg by leg**: because the hook handles every `PacketSent` event in order and fails on the first
failing `SendPacket`, running the hooks after the whole EVM execution commits exactly what a leg-by-leg execution
would (and fails exactly when it would). -/
theorem twoPhase_eq_batchI (cfg : Cfg) (self : ChainId) (seq0 : ChainId → Nat) (strict : Bool) :
    ∀ (legs : List Leg) (c : Chain), twoPhase cfg self seq0 strict c legs = batchI cfg self seq0 strict c legs := by
  intro legs c
  fun_induction batchI cfg self seq0 strict c legs with
  | case1 c => rfl
  | case2 c t n ls ih => rw [← ih]; rfl
  | case3 c a ls hs hst => simp only [twoPhase, batchEvm, hs, hst, if_true]
  | case4 c a ls hs hst ih => rw [← ih]; simp only [twoPhase, batchEvm, hs, hst, Bool.false_eq_true, if_false]
  | case5 c a ls e1 p hs hk =>
    simp only [twoPhase, batchEvm, hs]
    cases batchEvm cfg self seq0 strict e1 ls with
    | none => rfl
    | some r => simp only [hookPackets_packet, batchKeeper, sendKeeper_evm cfg c p e1 r.1, hk, Option.map_none]
  | case6 c a ls e1 p hs c1 hk ih =>
    rw [← ih]
    simp only [twoPhase, batchEvm, hs]
    have he : c1.evm = e1 := by rw [(sendKeeper_some hk).2.2]
    rw [he]
    cases batchEvm cfg self seq0 strict e1 ls with
    | none => rfl
    | some r => simp only [hookPackets_packet, batchKeeper, sendKeeper_evm cfg c p e1 r.1, hk, Option.map_some]
  | case7 c q ls ih =>
    rw [← ih]
    simp only [twoPhase, batchEvm]
    cases batchEvm cfg self seq0 strict c.evm ls with
    | none => rfl
    | some r => simp only [hookPackets_foreign acEmitter q r.2 (by decide)]

/-- `P` survives every way a step can change the world: a change no invariant looks at, a complete send, a receive, an
acknowledgement. -/
structure Preserved (P : World → Prop) : Prop where
  same : ∀ w w', P w → SameBridge w w' → P w'
  send : ∀ w X c' p, P w → SendEff (w.cfg X) X (w.chains X) c' p → P (w.set X c')
  recv : ∀ w X cR p code S, P w → p ∈ (w.chains S).commits → p.dst = X →
    (w.chains X).receipts p.src p.seq = false → RecvEff (w.cfg X) (w.chains X) cR p code → P (w.set X cR)
  ack : ∀ w X c' p code, P w → (w.chains p.dst).acks X p.seq = some code →
    AckEff (w.cfg X) (w.chains X) c' p code → P (w.set X c')

theorem batchI_preserves {P : World → Prop} (hP : Preserved P) (X : ChainId) (seq0 : ChainId → Nat) (strict : Bool)
    (w : World) (legs : List Leg) (c c' : Chain) (h0 : P (w.set X c))
    (h : batchI (w.cfg X) X seq0 strict c legs = some c') : P (w.set X c') := by
  fun_induction batchI (w.cfg X) X seq0 strict c legs with
  | case1 c => cases h; exact h0
  | case2 c t n ls ih =>
    refine ih ?_ h
    have := hP.same _ _ h0 (SameBridge.set (w.set X c) X (e' := { c.evm with allow := upd2 c.evm.allow t acForwarder n })
      (by rw [set_chains_eq]; exact ⟨rfl, rfl, rfl, rfl, rfl, rfl, fun _ => Nat.le_refl _⟩))
    rwa [set_chains_eq, set_set] at this
  | case3 => cases h
  | case4 c a ls hs hst ih => exact ih h0 h
  | case5 => cases h
  | case6 c a ls e1 p hs c1 hk ih =>
    refine ih ?_ h
    have := hP.send (w.set X c) X c1 p h0
      (by rw [set_cfg, set_chains_eq]; exact (sendEvm_eff (by decide) _ e1.agentData hs hk).2)
    rwa [set_set] at this
  | case7 c p ls ih => exact ih h0 h

theorem batch_step_cases (w : World) (i : ChainId) (sender : Acct) (strict : Bool) (legs : List Leg) :
    step true w (.batch i sender strict legs) = w ∨
    ∃ e0 c', BridgeLe (w.chains i).evm e0 ∧
      batchI (w.cfg i) i (w.chains i).nextSeq strict { (w.chains i) with evm := e0 } legs = some c' ∧
      step true w (.batch i sender strict legs) = w.set i c' := by
  simp only [step]
  cases hb : batch (w.cfg i) i (w.chains i) sender strict legs with
  | none => exact Or.inl rfl
  | some c' =>
    right
    unfold batch at hb
    by_cases hsys : sender = acEndpoint ∨ sender = acPacket
    · rw [if_pos hsys] at hb; cases hb
    rw [if_neg hsys] at hb
    generalize hd : debit (w.chains i).evm 0 sender _ = r at hb
    cases r with
    | none => cases hb
    | some e1 =>
      simp only at hb
      exact ⟨_, c', debit_credit_bridgeLe hd (fun h => hsys (Or.inr h)), by rw [← twoPhase_eq_batchI]; exact hb, rfl⟩

theorem batch_preserves {P : World → Prop} (hP : Preserved P) (X : ChainId)
    (w : World) (sender : Acct) (strict : Bool) (legs : List Leg) (h0 : P w) :
    P (step true w (.batch X sender strict legs)) := by
  rcases batch_step_cases w X sender strict legs with h1 | ⟨e0, c', hle, hbi, h1⟩
  · rw [h1]; exact h0
  rw [h1]
  exact batchI_preserves hP X _ strict w legs _ c' (hP.same w _ h0 (SameBridge.set w X hle)) hbi

theorem findPacket_some {l : List Packet} {dst : ChainId} {seq : Nat} {p : Packet}
    (h : findPacket l dst seq = some p) : p ∈ l ∧ p.dst = dst ∧ p.seq = seq := by
  unfold findPacket at h
  have h1 := List.mem_of_find?_eq_some h
  have h2 := List.find?_some h
  simp at h2
  exact ⟨h1, h2.1, h2.2⟩

theorem recv_step_cases (w : World) (s d : ChainId) (q : Nat) (signer : Acct) :
    step true w (.recv s d q signer) = w ∨
    ∃ p c' tag, findPacket (w.chains s).commits d q = some p ∧
      recvHandler true (w.cfg d) d (w.chains d) p = some c' ∧
      step true w (.recv s d q signer) =
        { w.set d c' with ackTag := fun d' s' q' => if d' = d ∧ s' = s ∧ q' = q then tag else w.ackTag d' s' q' } := by
  simp only [step]
  cases hf : findPacket (w.chains s).commits d q with
  | none => exact Or.inl rfl
  | some p =>
    simp only
    cases htag : (w.reg d).onOther s signer with
    | none => exact Or.inl rfl
    | some tag =>
      simp only
      cases hr : recvHandler true (w.cfg d) d (w.chains d) p with
      | none => exact Or.inl rfl
      | some c' => exact Or.inr ⟨p, c', tag, rfl, hr, rfl⟩

/-- the relayer step hands the source exactly the code the destination stored (ideal light client), and the relayer
to be paid is the one the SOURCE chain's registry resolves the name written into the acknowledgement to -/
theorem ack_step_uses_destination_code (w : World) (s d : ChainId) (q : Nat) :
    step true w (.ack s d q) = w ∨
    ∃ p code c', findPacket (w.chains s).commits d q = some p ∧ (w.chains d).acks s q = some code ∧
      ackHandler (w.cfg s) s (w.chains s) p code ((w.reg s).onTeleport d (w.ackTag d s q)) = some c' ∧
      ¬ (p.cbSwitch = true ∧ w.cbFail s = true) ∧
      step true w (.ack s d q) = w.set s c' := by
  simp only [step]
  cases hf : findPacket (w.chains s).commits d q with
  | none => exact Or.inl rfl
  | some p =>
    simp only
    cases hcode : (w.chains d).acks s q with
    | none => exact Or.inl rfl
    | some code =>
      simp only
      cases ha : ackMsg (w.cfg s) s (w.chains s) p code ((w.reg s).onTeleport d (w.ackTag d s q)) (w.cbFail s) with
      | none => exact Or.inl rfl
      | some c' => exact Or.inr ⟨p, code, c', rfl, rfl, (ackMsg_some ha).1, (ackMsg_some ha).2, rfl⟩

/-- One case analysis of `step` (repaired handler) for all invariants. A step is the identity, or a change no invariant
looks at, or it replaces one chain by the result of a complete send, of a receive (possibly followed by the agent's
nested send) or of an acknowledgement. -/
theorem step_preserves {P : World → Prop} (hP : Preserved P) (w : World) (s : Step) (h : P w) : P (step true w s) := by
  cases s with
  | batch i sender strict legs => exact batch_preserves hP i w sender strict legs h
  | send i sender a =>
    simp only [step]
    split
    · exact h
    · rename_i c hs
      obtain ⟨p, e⟩ := send_eff hs
      exact hP.send w i c p h e
  | register i addr rank chains => exact hP.same w _ h (SameBridge.of_eq rfl rfl)
  | cbset i on => exact hP.same w _ h (SameBridge.of_eq rfl rfl)
  | restart i whole => exact h
  | discard s => exact h
  | recv src dst seq signer =>
    rcases recv_step_cases w src dst seq signer with h1 | ⟨p, c, tag, hf, hr, h1⟩
    · rw [h1]; exact h
    rw [h1]
    refine hP.same (w.set dst c) _ ?_ (SameBridge.of_eq rfl rfl)
    obtain ⟨hd, hrc, code, cR, eR, hfin⟩ := recv_eff hr
    have h1 := hP.recv w dst cR p code src h (findPacket_some hf).1 hd hrc eR
    rcases hfin with hc | ⟨p2, e2⟩
    · subst hc; exact h1
    · have := hP.send (w.set dst cR) dst c p2 h1 (by rw [set_cfg, set_chains_eq]; exact e2)
      rwa [set_set] at this
  | ack src dst seq =>
    rcases ack_step_uses_destination_code w src dst seq with h1 | ⟨p, code, c, hf, hcode, hh, _, h1⟩
    · rw [h1]; exact h
    rw [h1]
    obtain ⟨_, hpd, hps⟩ := findPacket_some hf
    exact hP.ack w src c p code h (by rw [hpd, hps]; exact hcode) (ack_eff hh).2
  | mint i t who n =>
    simp only [step]
    split
    · exact h
    · exact hP.same w _ h (SameBridge.set w i ⟨rfl, rfl, rfl, rfl, rfl, rfl, fun F => credit_bal_le _ _ _ _ F _⟩)
  | approve i t who n =>
    exact hP.same w _ h (SameBridge.set w i (e' := { (w.chains i).evm with allow := upd2 (w.chains i).evm.allow t who n })
      ⟨rfl, rfl, rfl, rfl, rfl, rfl, fun _ => Nat.le_refl _⟩)
  | transfer i t src dst n =>
    simp only [step]
    split
    · exact h
    rename_i hsys
    split
    · exact h
    split
    · exact h
    · rename_i e hd
      exact hP.same w _ h (SameBridge.set w i (debit_credit_bridgeLe hd (fun hs => hsys (Or.inr hs))))

theorem run_preserves (P : World → Prop) (hstep : ∀ w s, P w → P (step true w s)) (steps : List Step) :
    ∀ w, P w → P (run true w steps) := by
  induction steps with
  | nil => intro w h; exact h
  | cons s rest ih => intro w h; exact ih (step true w s) (hstep w s h)

theorem inv_same {w w' : World} (h : Inv w) (s : SameBridge w w') : Inv w' := by
  obtain ⟨h, hc⟩ := h
  refine ⟨⟨?_, ?_, ?_, ?_, ?_⟩, ?_⟩
  · rw [s.cfg]; exact h.cfg
  · intro A p hp; rw [s.cfg, s.nextSeq]; rw [s.commits] at hp; exact h.pkt A p hp
  · intro A; rw [s.commits]; exact h.keys A
  · intro A B q; rw [s.acks, s.receipts]; exact h.acks A B q
  · intro A B q; rw [s.receipts, s.nextSeq]; exact h.rcpt A B q
  · intro A B T hne
    have h0 := hc A B T hne
    unfold eqn at h0 ⊢
    rw [s.cfg, s.commits, s.commits, s.acks, s.acks, (s.evm A).out, (s.evm B).bindAmt]
    exact h0

theorem inv_preserved : Preserved Inv := ⟨fun _ _ => inv_same, inv_send, inv_recv, inv_ack⟩

/-- an invariant kept on top of `Inv`: its own four facts may use `Inv` of the world before the step -/
theorem Preserved.and_inv {Q : World → Prop} (same : ∀ w w', Q w → SameBridge w w' → Q w')
    (send : ∀ w X c' p, Inv w → Q w → SendEff (w.cfg X) X (w.chains X) c' p → Q (w.set X c'))
    (recv : ∀ w X cR p code, Inv w → Q w → (w.chains X).receipts p.src p.seq = false →
      RecvEff (w.cfg X) (w.chains X) cR p code → Q (w.set X cR))
    (ack : ∀ w X c' p code, Inv w → Q w → (w.chains p.dst).acks X p.seq = some code →
      AckEff (w.cfg X) (w.chains X) c' p code → Q (w.set X c')) :
    Preserved (fun w => Inv w ∧ Q w) :=
  ⟨fun _ _ h s => ⟨inv_same h.1 s, same _ _ h.2 s⟩,
   fun w X c' p h e => ⟨inv_send w X c' p h.1 e, send w X c' p h.1 h.2 e⟩,
   fun w X cR p code S h hp hd hr e => ⟨inv_recv w X cR p code S h.1 hp hd hr e, recv w X cR p code h.1 h.2 hr e⟩,
   fun w X c' p code h hack e => ⟨inv_ack w X c' p code h.1 hack e, ack w X c' p code h.1 h.2 hack e⟩⟩

theorem inv_step (w : World) (s : Step) (h : Inv w) : Inv (step true w s) := step_preserves inv_preserved w s h

theorem inv_run (steps : List Step) : ∀ w : World, Inv w → Inv (run true w steps) :=
  run_preserves Inv inv_step steps

/-- **Conservation, every history.** From any world satisfying the invariant, after any list of steps
(sends, packet relays, acknowledgement relays on any chains in any interleaving, with any call data),
for every ordered pair of chains and every token: escrowed on the source towards the destination =
minted on the destination for successfully executed packets + in flight. -/
theorem conserved_run (w : World) (steps : List Step) (h : Inv w) : Conserved (run true w steps) :=
  (inv_run steps w h).2

def cfgA : Cfg := { clients := fun j => j == 1, trace := fun _ _ => none, ori := fun _ _ => none, scale := fun _ _ => 0 }
/-- chain 1 has bound its token 2 to (chain 0, token 1) -/
def cfgB : Cfg :=
  { clients := fun j => j == 0,
    trace := fun oc ot => if oc = 0 ∧ ot = 1 then some 2 else none,
    ori := fun v oc => if v = 2 ∧ oc = 0 then some 1 else none,
    scale := fun _ _ => 0 }

/-- chain 0: the user (account 0) holds 10000 of token 1 and has approved the endpoint for 100000 -/
def evm0 : Evm :=
  { Evm.empty with
    bal := fun t a => if t = 1 ∧ a = 0 then 10000 else 0
    allow := fun t a => if t = 1 ∧ a = 0 then 100000 else 0 }

/-- relayer registry of the concrete worlds: on chain 0 account 5 is the one to pay for acknowledgements written on
chains 1 and 2 by the relayer that goes by name 7 there; on the other chains account 0 relays for chain 0 as "7" -/
def reg0 : ChainId → Registry := fun i =>
  if i = 0 then [{ addr := acRelayer, rank := 0, chains := [(1, 7), (2, 7)] }]
  else [{ addr := 0, rank := 0, chains := [(0, 7)] }]

def w0 : World :=
  { cfg := fun i => if i = 0 then cfgA else cfgB,
    chains := fun i =>
      if i = 0 then { Chain.empty with evm := evm0 }
      else Chain.empty,
    reg := reg0, ackTag := fun _ _ _ => 0 }

def sendArgs (call : Call) (receiver : Acct) : SendArgs :=
  { dst := 1, token := 1, amount := 2000, receiver := receiver, call := call, feeToken := 1, feeAmount := 0, callback := false }

/-- F13: call data fails inside the EVM (result code 3, transfer part not reverted). -/
def f13Steps : List Step := [.send 0 0 (sendArgs (.plain .fail) 6), .recv 0 1 1 0, .ack 0 1 1]
/-- F1: a post-transaction hook fails after the EVM commit (staking event with an invalid validator). -/
def f1Steps : List Step := [.send 0 0 (sendArgs (.plain .hookFail) 6), .recv 0 1 1 0, .ack 0 1 1]
/-- F1, the reproduced variant: the call data makes the agent forward the tokens to chain 3, which has no client. -/
def f1AgentSteps : List Step := [.send 0 0 (sendArgs (.agent 0 0 3 1000) acAgent), .recv 0 1 1 0, .ack 0 1 1]

theorem f13_values :
    ((run false w0 f13Steps).chains 0).evm.out 1 1 = 0 ∧ ((run false w0 f13Steps).chains 1).evm.bindAmt 2 0 = 2000 ∧
    ((run false w0 f13Steps).chains 1).evm.bal 2 6 = 2000 ∧ ((run false w0 f13Steps).chains 0).evm.bal 1 0 = 10000 := by
  decide +kernel

theorem not_conserved (w : World) (A B : ChainId) (T V : Token) (hne : A ≠ B) (htr : (w.cfg B).trace A T = some V)
    (h : 10 ^ (w.cfg B).scale V A * (w.chains A).evm.out T B ≠
      10 ^ (w.cfg B).scale V A * flight ((w.chains B).acks A) B (fun p => fwdAmt p T) (w.chains A).commits +
        ((w.chains B).evm.bindAmt V A +
          10 ^ (w.cfg B).scale V A * flight ((w.chains A).acks B) A (fun p => backAmt p V) (w.chains B).commits)) :
    ¬ Conserved w := by
  intro hc
  have h1 := hc A B T hne
  unfold eqn at h1
  rw [htr] at h1
  exact h h1

/-- The handler as it was before fix 83c762f (`recvHandler false`) does NOT conserve value: witness F13. -/
theorem unrepaired_not_conserved_F13 : ¬ Conserved (run false w0 f13Steps) :=
  not_conserved _ 0 1 1 2 (by decide) (by decide +kernel) (by decide +kernel)

/-- … and the packet is both delivered (effects applied on chain 1) and refunded (on chain 0). -/
theorem unrepaired_double_hold_F13 :
    ((run false w0 f13Steps).chains 1).evm.credited 0 1 = 1 ∧ ((run false w0 f13Steps).chains 0).evm.refunded 1 1 = 1 ∧
    ((run false w0 f13Steps).chains 1).evm.bal 2 6 = 2000 ∧ ((run false w0 f13Steps).chains 0).evm.bal 1 0 = 10000 := by
  decide +kernel

/-- The handler as it was before fix 83c762f does NOT conserve value: witness F1 (hook failure after the EVM commit). -/
theorem unrepaired_not_conserved_F1 : ¬ Conserved (run false w0 f1Steps) :=
  not_conserved _ 0 1 1 2 (by decide) (by decide +kernel) (by decide +kernel)

theorem unrepaired_double_hold_F1 :
    ((run false w0 f1Steps).chains 1).evm.credited 0 1 = 1 ∧ ((run false w0 f1Steps).chains 0).evm.refunded 1 1 = 1 ∧
    ((run false w0 f1Steps).chains 1).evm.bal 2 6 = 2000 ∧ ((run false w0 f1Steps).chains 0).evm.bal 1 0 = 10000 := by
  decide +kernel

/-- F1 as reproduced on the real chains: nested crossChainCall towards a chain without client — 2000 minted on
chain 1 (1000 escrowed towards chain 3, 1000 in fee escrow) and the sender refunded to 10000 on chain 0. -/
theorem unrepaired_not_conserved_F1_agent : ¬ Conserved (run false w0 f1AgentSteps) :=
  not_conserved _ 0 1 1 2 (by decide) (by decide +kernel) (by decide +kernel)

theorem unrepaired_values_F1_agent :
    ((run false w0 f1AgentSteps).chains 1).evm.bindAmt 2 0 = 2000 ∧ ((run false w0 f1AgentSteps).chains 1).evm.out 2 3 = 1000 ∧
    ((run false w0 f1AgentSteps).chains 1).evm.bal 2 acPacket = 1000 ∧ ((run false w0 f1AgentSteps).chains 0).evm.bal 1 0 = 10000 ∧
    ((run false w0 f1AgentSteps).chains 0).evm.out 1 1 = 0 := by
  decide +kernel

/-- The repaired handler on the same three histories: refunded, nothing left on chain 1. -/
theorem repaired_witnesses :
    ((run true w0 f13Steps).chains 1).evm.bindAmt 2 0 = 0 ∧ ((run true w0 f13Steps).chains 0).evm.bal 1 0 = 10000 ∧
    ((run true w0 f1Steps).chains 1).evm.bindAmt 2 0 = 0 ∧ ((run true w0 f1Steps).chains 0).evm.bal 1 0 = 10000 ∧
    ((run true w0 f1AgentSteps).chains 1).evm.bindAmt 2 0 = 0 ∧ ((run true w0 f1AgentSteps).chains 1).evm.out 2 3 = 0 ∧
    ((run true w0 f1AgentSteps).chains 0).evm.bal 1 0 = 10000 := by
  decide +kernel

/-- **An error acknowledgement leaves the destination unchanged** — for every packet (with or without call data, with or
without transfer data) and every class of failure (the contract returned a non-zero result code; the EVM call reverted;
a post-transaction hook failed after the EVM state had been written; the write-back of the EVM state itself failed
half-way): after an accepted receive whose acknowledgement is not a success, the WHOLE chain state — EVM state (balances,
escrow, `outTokens`, supplies, bindings, every contract field), commitments, sequences — is the state before the receive;
exactly the receipt and the acknowledgement have been added. -/
theorem recv_error_ack_leaves_destination_unchanged (cfg : Cfg) (me : ChainId) (c c' : Chain) (p : Packet)
    (h : recvHandler true cfg me c p = some c') (herr : c'.acks p.src p.seq ≠ some 0) :
    ∃ code, code ≠ 0 ∧ c' = withAck (ctxOf c p) p code := by
  rw [recvHandler_eq true (recv_accepts h)] at h
  cases h
  rw [withAck_acks] at herr
  have hc : (onRecv cfg me (ctxOf c p) p).ackCode ≠ 0 := fun h0 => herr (by rw [h0])
  exact ⟨_, hc, by rw [Cb.kept_of_code_ne_zero _ hc]⟩

/-- With the repaired handler an error acknowledgement leaves NO token or contract effect on the destination:
the whole EVM state of the destination chain (balances, supplies, escrow, bindings, packet contract state,
agent state) and its outgoing commitments / sequences are exactly as before; only the receipt and the
acknowledgement are written. -/
theorem recv_error_no_effect (cfg : Cfg) (me : ChainId) (c c' : Chain) (p : Packet)
    (h : recvHandler true cfg me c p = some c') (herr : c'.acks p.src p.seq ≠ some 0) :
    c'.evm = c.evm ∧ c'.commits = c.commits ∧ c'.nextSeq = c.nextSeq := by
  obtain ⟨code, _, hc⟩ := recv_error_ack_leaves_destination_unchanged cfg me c c' p h herr
  subst hc
  exact ⟨rfl, rfl, rfl⟩

theorem recv_writes_ack (cfg : Cfg) (me : ChainId) (c c' : Chain) (p : Packet) (fixed : Bool)
    (h : recvHandler fixed cfg me c p = some c') : (c'.acks p.src p.seq).isSome := by
  rw [recvHandler_eq fixed (recv_accepts h)] at h
  cases h
  rw [withAck_acks]; rfl

def Pending (w : World) (S D : ChainId) (q : Nat) : Prop :=
  ∃ p ∈ (w.chains S).commits, p.dst = D ∧ p.seq = q

theorem Pending.mono {w w' : World} {S D : ChainId} {q : Nat} (h : Pending w S D q)
    (hsub : ∀ r ∈ (w.chains S).commits, r.dst = D → r.seq = q → r ∈ (w'.chains S).commits) : Pending w' S D q := by
  obtain ⟨r, hr, h1, h2⟩ := h
  exact ⟨r, hsub r hr h1 h2, h1, h2⟩

/-- A per-packet counter `cnt` kept on the source chain (times refunded, times the relay fee was paid) is *tracked*: it is
0 for every committed packet and for every sequence not yet sent, and every sequence that was sent is pending or `done`. -/
def Tracked (cnt : Chain → ChainId → Nat → Nat) (done : World → ChainId → ChainId → Nat → Prop) (w : World) : Prop :=
  (∀ S p, p ∈ (w.chains S).commits → cnt (w.chains S) p.dst p.seq = 0) ∧
  (∀ S D q, (w.chains S).nextSeq D ≤ q → cnt (w.chains S) D q = 0) ∧
  (∀ S D q, (w.cfg S).seq0 D ≤ q → q < (w.chains S).nextSeq D → Pending w S D q ∨ done w S D q)

section
variable {cnt : Chain → ChainId → Nat → Nat} {done : World → ChainId → ChainId → Nat → Prop}

theorem tracked_mono {w w' : World} (hcfg : w'.cfg = w.cfg)
    (hcm : ∀ Y, (w'.chains Y).commits = (w.chains Y).commits) (hns : ∀ Y, (w'.chains Y).nextSeq = (w.chains Y).nextSeq)
    (hcnt : ∀ Y, cnt (w'.chains Y) = cnt (w.chains Y)) (hdone : ∀ S D q, done w S D q → done w' S D q)
    (t : Tracked cnt done w) : Tracked cnt done w' := by
  obtain ⟨t1, t2, t3⟩ := t
  refine ⟨?_, ?_, ?_⟩
  · intro S p hp; rw [hcnt]; rw [hcm] at hp; exact t1 S p hp
  · intro S D q hq; rw [hcnt]; rw [hns] at hq; exact t2 S D q hq
  · intro S D q h0 hq
    rw [hcfg] at h0; rw [hns] at hq
    exact (t3 S D q h0 hq).imp (fun hp => hp.mono (fun r hr _ _ => by rw [hcm]; exact hr)) (hdone S D q)

variable (w : World) (X : ChainId) (c' : Chain) (p : Packet) (code : Nat)

/-- a send: the new packet is pending, its sequence was "not yet sent" before -/
theorem tracked_send (e : SendEff (w.cfg X) X (w.chains X) c' p)
    (hcnt : cnt c' = cnt (w.chains X)) (hdone : ∀ S D q, done w S D q → done (w.set X c') S D q)
    (t : Tracked cnt done w) : Tracked cnt done (w.set X c') := by
  obtain ⟨t1, t2, t3⟩ := t
  have hc : ∀ Y, cnt ((w.set X c').chains Y) = cnt (w.chains Y) := set_proj w X c' cnt hcnt
  have mono := nextSeq_mono e.nextSeq e.seq
  have hpend : ∀ S D q, Pending w S D q → Pending (w.set X c') S D q := by
    intro S D q hp
    refine hp.mono (fun r hr _ _ => ?_)
    by_cases hS : S = X
    · subst hS; rw [set_chains_eq, e.commits]; exact List.mem_cons_of_mem _ hr
    · rw [set_chains_ne _ _ hS]; exact hr
  refine ⟨?_, ?_, ?_⟩
  · intro S r hr
    rw [hc]
    by_cases hS : S = X
    · subst hS
      rw [set_chains_eq, e.commits] at hr
      rcases List.mem_cons.mp hr with hr | hr
      · subst hr; exact t2 S r.dst r.seq (Nat.le_of_eq e.seq.symm)
      · exact t1 S r hr
    · rw [set_chains_ne _ _ hS] at hr; exact t1 S r hr
  · intro S D q hq
    rw [hc]
    by_cases hS : S = X
    · subst hS; rw [set_chains_eq] at hq; exact t2 S D q (Nat.le_trans (mono D) hq)
    · rw [set_chains_ne _ _ hS] at hq; exact t2 S D q hq
  · intro S D q h0 hq
    by_cases hS : S = X
    · subst hS
      rw [set_chains_eq, e.nextSeq] at hq
      by_cases hk : D = p.dst ∧ q = p.seq
      · left; refine ⟨p, ?_, hk.1.symm, hk.2.symm⟩; rw [set_chains_eq, e.commits]; exact List.mem_cons_self
      · have hq' : q < (w.chains S).nextSeq D := by
          unfold upd1 at hq
          split at hq
          · rename_i hD
            have : q ≠ p.seq := fun h => hk ⟨hD, h⟩
            rw [hD, ← e.seq]; omega
          · exact hq
        exact (t3 S D q h0 hq').imp (hpend S D q) (hdone S D q)
    · rw [set_chains_ne _ _ hS] at hq
      exact (t3 S D q h0 hq).imp (hpend S D q) (hdone S D q)

/-- an acknowledgement: the packet leaves the commitments and becomes `done`; the counter may move at its key only -/
theorem tracked_ack (h : WF w)
    (e : AckEff (w.cfg X) (w.chains X) c' p code)
    (hcnt : ∀ D q, ¬ (D = p.dst ∧ q = p.seq) → cnt c' D q = cnt (w.chains X) D q)
    (hkey : done (w.set X c') X p.dst p.seq)
    (hdone : ∀ S D q, ¬ (S = X ∧ D = p.dst ∧ q = p.seq) → done w S D q → done (w.set X c') S D q)
    (t : Tracked cnt done w) : Tracked cnt done (w.set X c') := by
  obtain ⟨t1, t2, t3⟩ := t
  obtain ⟨_, _, hseq, _⟩ := h.pkt X p e.mem
  refine ⟨?_, ?_, ?_⟩
  · intro S r hr
    by_cases hS : S = X
    · subst hS
      rw [set_chains_eq] at hr ⊢
      rw [e.commits] at hr
      have hk := erase_key p r _ (h.keys S) e.mem hr
      rw [hcnt _ _ (fun hc => hk.elim (fun h1 => h1 hc.1) (fun h2 => h2 hc.2))]
      exact t1 S r (List.mem_of_mem_erase hr)
    · rw [set_chains_ne _ _ hS] at hr ⊢; exact t1 S r hr
  · intro S D q hq
    rw [set_proj w X c' (·.nextSeq) e.nextSeq] at hq
    by_cases hS : S = X
    · subst hS
      rw [set_chains_eq, hcnt _ _ (fun hc => by rw [hc.1, hc.2] at hq; omega)]
      exact t2 S D q hq
    · rw [set_chains_ne _ _ hS]; exact t2 S D q hq
  · intro S D q h0 hq
    by_cases hk : S = X ∧ D = p.dst ∧ q = p.seq
    · obtain ⟨rfl, rfl, rfl⟩ := hk
      exact Or.inr hkey
    · rw [set_proj w X c' (·.nextSeq) e.nextSeq] at hq
      refine (t3 S D q h0 hq).imp (fun hp => hp.mono (fun r hr hr1 hr2 => ?_)) (hdone S D q hk)
      by_cases hS : S = X
      · subst hS
        rw [set_chains_eq, e.commits]
        exact (List.mem_erase_of_ne (fun hrp => hk ⟨rfl, by rw [← hr1, hrp], by rw [← hr2, hrp]⟩)).mpr hr
      · rw [set_chains_ne _ _ hS]; exact hr

end

/-- ghost-counter invariant: `credited` on the destination and `refunded` on the source against the
acknowledgement the destination wrote -/
structure GInv (w : World) : Prop where
  g1 : ∀ S D q, (w.chains D).evm.credited S q = if (w.chains D).acks S q = some 0 then 1 else 0
  g2 : ∀ S D q, (w.chains S).evm.refunded D q ≤ 1 ∧
        ((w.chains S).evm.refunded D q = 1 → ∃ code, code ≠ 0 ∧ (w.chains D).acks S q = some code)
  g3 : ∀ S p, p ∈ (w.chains S).commits → (w.chains S).evm.refunded p.dst p.seq = 0
  g8 : ∀ S D q, (w.chains S).nextSeq D ≤ q → (w.chains S).evm.refunded D q = 0
  g7 : ∀ S D q, (w.cfg S).seq0 D ≤ q → q < (w.chains S).nextSeq D →
        Pending w S D q ∨ (w.chains D).acks S q = some 0 ∨ (w.chains S).evm.refunded D q = 1

def Settled (w : World) (S D : ChainId) (q : Nat) : Prop :=
  (w.chains D).acks S q = some 0 ∨ (w.chains S).evm.refunded D q = 1

theorem GInv.tracked {w : World} (g : GInv w) : Tracked (fun c => c.evm.refunded) Settled w := ⟨g.g3, g.g8, g.g7⟩

theorem ginv_same {w w' : World} (g : GInv w) (s : SameBridge w w') : GInv w' := by
  obtain ⟨t1, t2, t3⟩ := tracked_mono s.cfg s.commits s.nextSeq (fun Y => (s.evm Y).refunded)
    (fun S D q hd => by unfold Settled at hd ⊢; rw [s.acks, (s.evm S).refunded]; exact hd) g.tracked
  refine ⟨?_, ?_, t1, t2, t3⟩
  · intro S D q; rw [(s.evm D).credited, s.acks]; exact g.g1 S D q
  · intro S D q; rw [(s.evm S).refunded, s.acks]; exact g.g2 S D q

section
variable (w : World) (X : ChainId) (c' : Chain) (p : Packet) (code : Nat)

theorem ginv_send (g : GInv w)
    (e : SendEff (w.cfg X) X (w.chains X) c' p) : GInv (w.set X c') := by
  have hcr := set_proj w X c' (·.evm.credited) e.cred
  have hrf := set_proj w X c' (·.evm.refunded) e.refd
  have hak := set_proj w X c' (·.acks) e.acks
  obtain ⟨t1, t2, t3⟩ := tracked_send w X c' p e e.refd
    (fun S D q hd => by unfold Settled at hd ⊢; rw [hak, hrf]; exact hd) g.tracked
  refine ⟨?_, ?_, t1, t2, t3⟩
  · intro S D q; rw [hcr, hak]; exact g.g1 S D q
  · intro S D q; rw [hrf, hak]; exact g.g2 S D q

theorem ginv_recv (h : WF w) (g : GInv w)
    (hr : (w.chains X).receipts p.src p.seq = false)
    (e : RecvEff (w.cfg X) (w.chains X) c' p code) : GInv (w.set X c') := by
  have hrf := set_proj w X c' (·.evm.refunded) e.refd
  have hnone := acks_none w h hr
  -- an acknowledgement, once written, stays: the receive writes at a key that had none
  have hmono : ∀ Y S q v, (w.chains Y).acks S q = some v → ((w.set X c').chains Y).acks S q = some v := by
    intro Y S q v hv
    by_cases hY : Y = X
    · subst hY
      rw [set_chains_eq, e.acks, upd2_app]
      split
      · rename_i hk; rw [hk.1, hk.2, hnone] at hv; cases hv
      · exact hv
    · rw [set_chains_ne _ _ hY]; exact hv
  obtain ⟨t1, t2, t3⟩ := tracked_mono (w := w) (w' := w.set X c') (cnt := fun c => c.evm.refunded) (done := Settled) rfl
    (set_proj w X c' (·.commits) e.commits) (set_proj w X c' (·.nextSeq) e.nextSeq) hrf
    (fun S D q hd => hd.imp (hmono D S q 0) (fun h1 => by rw [hrf]; exact h1)) g.tracked
  refine ⟨?_, ?_, t1, t2, t3⟩
  · intro S D q
    by_cases hD : D = X
    · subst hD
      rw [set_chains_eq, e.cred, e.acks, upd2_app]
      have old := g.g1 S D q
      by_cases hk : S = p.src ∧ q = p.seq
      · obtain ⟨rfl, rfl⟩ := hk
        rw [hnone] at old
        by_cases hc0 : code = 0 <;> simp [hc0, upd2_app] <;> simpa using old
      · rw [if_neg hk, ← old]
        split
        · exact upd2_ne _ _ hk
        · rfl
    · rw [set_chains_ne _ _ hD]; exact g.g1 S D q
  · intro S D q
    rw [hrf]
    obtain ⟨o1, o2⟩ := g.g2 S D q
    refine ⟨o1, fun h1 => ?_⟩
    obtain ⟨cd, hcd, hv⟩ := o2 h1
    exact ⟨cd, hcd, hmono D S q cd hv⟩

theorem ginv_ack (h : WF w) (g : GInv w)
    (hack : (w.chains p.dst).acks X p.seq = some code)
    (e : AckEff (w.cfg X) (w.chains X) c' p code) : GInv (w.set X c') := by
  have hcr := set_proj w X c' (·.evm.credited) e.cred
  have hak := set_proj w X c' (·.acks) e.acks
  have hold0 := g.g3 X p e.mem
  have hrfX : ∀ D q, c'.evm.refunded D q =
      if code ≠ 0 ∧ D = p.dst ∧ q = p.seq then 1 else (w.chains X).evm.refunded D q := by
    intro D q
    rw [e.refd]
    by_cases hc0 : code = 0
    · simp [hc0]
    · simp [hc0, upd2_app, hold0]
  obtain ⟨t1, t2, t3⟩ := tracked_ack (cnt := fun c => c.evm.refunded) (done := Settled) w X c' p code h e
    (fun D q hk => by rw [hrfX, if_neg (fun hc => hk hc.2)])
    (by
      unfold Settled
      rw [hak, set_chains_eq, hrfX]
      by_cases hc0 : code = 0
      · left; rw [hack, hc0]
      · right; simp [hc0])
    (fun S D q hk hd => by
      unfold Settled at hd ⊢
      rw [hak]
      by_cases hS : S = X
      · subst hS; rw [set_chains_eq, hrfX, if_neg (fun hc => hk ⟨rfl, hc.2⟩)]; exact hd
      · rw [set_chains_ne _ _ hS]; exact hd)
    g.tracked
  refine ⟨?_, ?_, t1, t2, t3⟩
  · intro S D q; rw [hcr, hak]; exact g.g1 S D q
  · intro S D q
    rw [hak]
    by_cases hS : S = X
    · subst hS
      rw [set_chains_eq, hrfX]
      split
      · rename_i hk
        obtain ⟨hc, rfl, rfl⟩ := hk
        exact ⟨Nat.le_refl 1, fun _ => ⟨code, hc, hack⟩⟩
      · exact g.g2 S D q
    · rw [set_chains_ne _ _ hS]; exact g.g2 S D q

end

def FullInv (w : World) : Prop := Inv w ∧ GInv w

theorem full_step (w : World) (s : Step) (h : FullInv w) : FullInv (step true w s) :=
  step_preserves (Preserved.and_inv (fun _ _ => ginv_same) (fun w X c' p _ => ginv_send w X c' p)
    (fun w X cR p code h => ginv_recv w X cR p code h.1) (fun w X c' p code h => ginv_ack w X c' p code h.1)) w s h

theorem full_run (steps : List Step) : ∀ w : World, FullInv w → FullInv (run true w steps) :=
  run_preserves FullInv full_step steps

/-- not yet acknowledged on the source, never refunded -/
def PendingOnly (w : World) (S D : ChainId) (q : Nat) : Prop :=
  Pending w S D q ∧ (w.chains S).evm.refunded D q = 0

/-- acknowledged; the destination wrote a success acknowledgement and applied the packet exactly once; never refunded -/
def Delivered (w : World) (S D : ChainId) (q : Nat) : Prop :=
  ¬ Pending w S D q ∧ (w.chains D).acks S q = some 0 ∧ (w.chains D).evm.credited S q = 1 ∧
    (w.chains S).evm.refunded D q = 0

/-- acknowledged; the destination wrote an error acknowledgement and applied nothing; refunded exactly once -/
def Refunded (w : World) (S D : ChainId) (q : Nat) : Prop :=
  ¬ Pending w S D q ∧ (∃ code, code ≠ 0 ∧ (w.chains D).acks S q = some code) ∧
    (w.chains D).evm.credited S q = 0 ∧ (w.chains S).evm.refunded D q = 1

/-- **One outcome.** After any history, every packet that was ever sent (sequence `q` from the path's first sequence `seq0` up to,
not including, the source's next sequence towards `D`) is in exactly one of: pending / delivered (success acknowledgement, effects applied once,
never refunded) / refunded once (error acknowledgement, no effect applied on the destination). -/
theorem one_outcome (w : World) (steps : List Step) (h : FullInv w) (S D : ChainId) (q : Nat)
    (h0 : ((run true w steps).cfg S).seq0 D ≤ q) (hq : q < ((run true w steps).chains S).nextSeq D) :
    let w' := run true w steps
    (PendingOnly w' S D q ∧ ¬ Delivered w' S D q ∧ ¬ Refunded w' S D q) ∨
    (Delivered w' S D q ∧ ¬ PendingOnly w' S D q ∧ ¬ Refunded w' S D q) ∨
    (Refunded w' S D q ∧ ¬ PendingOnly w' S D q ∧ ¬ Delivered w' S D q) := by
  have g := (full_run steps w h).2
  revert h0 hq g
  generalize run true w steps = w'
  intro h0 hq g
  dsimp only
  have G1 := g.g1 S D q
  obtain ⟨G2a, G2b⟩ := g.g2 S D q
  by_cases hp : Pending w' S D q
  · left
    refine ⟨⟨hp, ?_⟩, fun d => d.1 hp, fun d => d.1 hp⟩
    obtain ⟨r, hr, h1, h2⟩ := hp
    have := g.g3 S r hr
    rwa [h1, h2] at this
  · rcases (g.g7 S D q h0 hq).resolve_left hp with h | h
    · right; left
      have hcr : (w'.chains D).evm.credited S q = 1 := by rw [G1, h]; rfl
      have hrf : (w'.chains S).evm.refunded D q = 0 := by
        have : (w'.chains S).evm.refunded D q ≠ 1 := by
          intro h1
          obtain ⟨cd, hcd, hv⟩ := G2b h1
          rw [h] at hv
          exact hcd (Option.some.inj hv).symm
        omega
      exact ⟨⟨hp, h, hcr, hrf⟩, fun d => hp d.1, fun d => by have := d.2.2.2; omega⟩
    · right; right
      obtain ⟨cd, hcd, hv⟩ := G2b h
      have hcr : (w'.chains D).evm.credited S q = 0 := by
        rw [G1, hv]
        simp [hcd]
      exact ⟨⟨hp, ⟨cd, hcd, hv⟩, hcr, h⟩, fun d => hp d.1, fun d => by have := d.2.2.2; omega⟩

/-- **No double hold.** After any history there is no packet whose effects were applied on the destination
(the receiver holds the delivered tokens) and which was also refunded on the source. -/
theorem no_double_hold (w : World) (steps : List Step) (h : FullInv w) (S D : ChainId) (q : Nat) :
    ¬ (1 ≤ ((run true w steps).chains D).evm.credited S q ∧ 1 ≤ ((run true w steps).chains S).evm.refunded D q) := by
  have g := (full_run steps w h).2
  intro ⟨hc, hr⟩
  have G1 := g.g1 S D q
  obtain ⟨G2a, G2b⟩ := g.g2 S D q
  obtain ⟨cd, hcd, hv⟩ := G2b (by omega)
  rw [G1, hv] at hc
  simp [hcd] at hc

/-- sum of the relay fees (in token `F`) of the packets still committed on a chain -/
def escrowFee (c : Chain) (F : Token) : Nat := (c.commits.map (fun p => feeAt c.evm p F)).sum

/-- **Fee escrow is solvent**: on every chain, for every token, the packet contract holds at least the relay fees
of all packets that are not yet acknowledged (the fee of a pending packet is never lost, never paid early). -/
def FeeSolvent (w : World) : Prop := ∀ S F, escrowFee (w.chains S) F ≤ (w.chains S).evm.bal F acPacket

theorem fs_same {w w' : World} (fs : FeeSolvent w) (s : SameBridge w w') : FeeSolvent w' := by
  intro S F
  have old := fs S F
  have := (s.evm S).bal F
  unfold escrowFee feeAt at old ⊢
  rw [s.commits, (s.evm S).fee]; omega

section
variable (w : World) (X : ChainId) (c' : Chain) (p : Packet) (code : Nat)

theorem fs_set (fs : FeeSolvent w) (h : ∀ F, escrowFee c' F ≤ c'.evm.bal F acPacket) : FeeSolvent (w.set X c') := by
  intro S F
  by_cases hS : S = X
  · subst hS; rw [set_chains_eq]; exact h F
  · rw [set_chains_ne _ _ hS]; exact fs S F

theorem fs_send (h : WF w) (fs : FeeSolvent w)
    (e : SendEff (w.cfg X) X (w.chains X) c' p) : FeeSolvent (w.set X c') := by
  refine fs_set w X c' fs (fun F => ?_)
  have old := fs X F
  have hesc := e.esc F
  unfold escrowFee at old ⊢
  rw [e.commits]
  simp only [List.map_cons, List.sum_cons]
  have hsame : ((w.chains X).commits.map (fun q => feeAt c'.evm q F)).sum =
      ((w.chains X).commits.map (fun q => feeAt (w.chains X).evm q F)).sum := by
    refine congrArg List.sum (List.map_congr_left ?_)
    intro q hq
    obtain ⟨_, _, hlt, _⟩ := h.pkt X q hq
    unfold feeAt
    rw [e.feeKey q.dst q.seq (by
      intro ⟨h1, h2⟩
      rw [h1, h2, e.seq] at hlt
      exact Nat.lt_irrefl _ hlt)]
  rw [hsame]; omega

theorem fs_recv (fs : FeeSolvent w)
    (e : RecvEff (w.cfg X) (w.chains X) c' p code) : FeeSolvent (w.set X c') := by
  refine fs_set w X c' fs (fun F => ?_)
  have old := fs X F
  have hesc := e.esc F
  unfold escrowFee feeAt at old ⊢
  rw [e.commits, e.feeMap]; omega

theorem fs_ack (fs : FeeSolvent w)
    (e : AckEff (w.cfg X) (w.chains X) c' p code) : FeeSolvent (w.set X c') := by
  refine fs_set w X c' fs (fun F => ?_)
  have old := fs X F
  have hesc := e.esc F
  have her := sum_map_erase (fun q => feeAt (w.chains X).evm q F) p _ e.mem
  unfold escrowFee at old ⊢
  have hsame : (c'.commits.map (fun q => feeAt c'.evm q F)).sum =
      (((w.chains X).commits.erase p).map (fun q => feeAt (w.chains X).evm q F)).sum := by
    rw [e.commits]
    refine congrArg List.sum (List.map_congr_left ?_)
    intro q _
    unfold feeAt; rw [e.feeMap]
  rw [hsame]; omega

end

theorem fs_step (w : World) (s : Step) (h : Inv w ∧ FeeSolvent w) : Inv (step true w s) ∧ FeeSolvent (step true w s) :=
  step_preserves (Preserved.and_inv (fun _ _ => fs_same) (fun w X c' p h => fs_send w X c' p h.1)
    (fun w X cR p code _ fs _ => fs_recv w X cR p code fs) (fun w X c' p code _ fs _ => fs_ack w X c' p code fs)) w s h

/-- **Fee escrow solvency, every history.** -/
theorem fee_solvent_run (steps : List Step) : ∀ w : World, Inv w → FeeSolvent w → FeeSolvent (run true w steps) := by
  intro w h fs
  exact (run_preserves _ fs_step steps w ⟨h, fs⟩).2

structure FInv (w : World) : Prop where
  f1 : ∀ S p, p ∈ (w.chains S).commits → (w.chains S).evm.feePaid p.dst p.seq = 0
  f2 : ∀ S D q, (w.chains S).nextSeq D ≤ q → (w.chains S).evm.feePaid D q = 0
  f3 : ∀ S D q, (w.chains S).evm.feePaid D q ≤ 1
  f4 : ∀ S D q, (w.cfg S).seq0 D ≤ q → q < (w.chains S).nextSeq D → Pending w S D q ∨ (w.chains S).evm.feePaid D q = 1
  gR : ∀ S D q, (w.chains D).receipts S q = true → (w.chains D).acks S q ≠ none

def FeePaid (w : World) (S D : ChainId) (q : Nat) : Prop := (w.chains S).evm.feePaid D q = 1

theorem FInv.tracked {w : World} (g : FInv w) : Tracked (fun c => c.evm.feePaid) FeePaid w := ⟨g.f1, g.f2, g.f4⟩

theorem finv_same {w w' : World} (g : FInv w) (s : SameBridge w w') : FInv w' := by
  obtain ⟨t1, t2, t3⟩ := tracked_mono s.cfg s.commits s.nextSeq (fun Y => (s.evm Y).feePaid)
    (fun S D q hd => by unfold FeePaid at hd ⊢; rw [(s.evm S).feePaid]; exact hd) g.tracked
  refine ⟨t1, t2, ?_, t3, ?_⟩
  · intro S D q; rw [(s.evm S).feePaid]; exact g.f3 S D q
  · intro S D q hr; rw [s.acks]; rw [s.receipts] at hr; exact g.gR S D q hr

section
variable (w : World) (X : ChainId) (c' : Chain) (p : Packet) (code : Nat)

theorem finv_send (g : FInv w)
    (e : SendEff (w.cfg X) X (w.chains X) c' p) : FInv (w.set X c') := by
  have hfp := set_proj w X c' (·.evm.feePaid) e.fpd
  obtain ⟨t1, t2, t3⟩ := tracked_send w X c' p e e.fpd
    (fun S D q hd => by unfold FeePaid at hd ⊢; rw [hfp]; exact hd) g.tracked
  refine ⟨t1, t2, ?_, t3, ?_⟩
  · intro S D q; rw [hfp]; exact g.f3 S D q
  · intro S D q hr
    rw [set_proj w X c' (·.acks) e.acks]; rw [set_proj w X c' (·.receipts) e.receipts] at hr; exact g.gR S D q hr

theorem finv_recv (g : FInv w)
    (e : RecvEff (w.cfg X) (w.chains X) c' p code) : FInv (w.set X c') := by
  have hfp := set_proj w X c' (·.evm.feePaid) e.fpd
  obtain ⟨t1, t2, t3⟩ := tracked_mono (w := w) (w' := w.set X c') (cnt := fun c => c.evm.feePaid) (done := FeePaid) rfl
    (set_proj w X c' (·.commits) e.commits) (set_proj w X c' (·.nextSeq) e.nextSeq) hfp
    (fun S D q hd => by unfold FeePaid at hd ⊢; rw [hfp]; exact hd) g.tracked
  refine ⟨t1, t2, ?_, t3, ?_⟩
  · intro S D q; rw [hfp]; exact g.f3 S D q
  · intro S D q hr
    by_cases hD : D = X
    · subst hD
      rw [set_chains_eq] at hr ⊢
      rw [e.acks, upd2_app]
      rw [e.receipts, upd2_app] at hr
      split
      · exact Option.some_ne_none _
      · rename_i hk
        simp only [hk, ↓reduceIte] at hr
        exact g.gR S D q hr
    · rw [set_chains_ne _ _ hD] at hr ⊢; exact g.gR S D q hr

theorem finv_ack (h : WF w) (g : FInv w)
    (e : AckEff (w.cfg X) (w.chains X) c' p code) : FInv (w.set X c') := by
  have hold0 := g.f1 X p e.mem
  have hfpX : ∀ D q, c'.evm.feePaid D q =
      if D = p.dst ∧ q = p.seq then 1 else (w.chains X).evm.feePaid D q := by
    intro D q
    rw [e.fpd, upd2_app, hold0]
  obtain ⟨t1, t2, t3⟩ := tracked_ack (cnt := fun c => c.evm.feePaid) (done := FeePaid) w X c' p code h e
    (fun D q hk => by rw [hfpX, if_neg hk])
    (by unfold FeePaid; rw [set_chains_eq, hfpX, if_pos ⟨rfl, rfl⟩])
    (fun S D q hk hd => by
      unfold FeePaid at hd ⊢
      by_cases hS : S = X
      · subst hS; rw [set_chains_eq, hfpX, if_neg (fun hc => hk ⟨rfl, hc⟩)]; exact hd
      · rw [set_chains_ne _ _ hS]; exact hd)
    g.tracked
  refine ⟨t1, t2, ?_, t3, ?_⟩
  · intro S D q
    by_cases hS : S = X
    · subst hS
      rw [set_chains_eq, hfpX]
      split
      · exact Nat.le_refl 1
      · exact g.f3 S D q
    · rw [set_chains_ne _ _ hS]; exact g.f3 S D q
  · intro S D q hr
    rw [set_proj w X c' (·.acks) e.acks]; rw [set_proj w X c' (·.receipts) e.receipts] at hr; exact g.gR S D q hr

end

theorem finv_step (w : World) (s : Step) (h : Inv w ∧ FInv w) : Inv (step true w s) ∧ FInv (step true w s) :=
  step_preserves (Preserved.and_inv (fun _ _ => finv_same) (fun w X c' p _ => finv_send w X c' p)
    (fun w X cR p code _ g _ => finv_recv w X cR p code g) (fun w X c' p code h g _ => finv_ack w X c' p code h.1 g)) w s h

theorem finv_run (steps : List Step) (w : World) (h : Inv w) (g : FInv w) : FInv (run true w steps) :=
  (run_preserves _ finv_step steps w ⟨h, g⟩).2

/-- **The relay fee is paid exactly once, at the acknowledgement.** After any history, for every packet ever sent:
either it is still pending and its fee has not been paid, or it is acknowledged and its fee has been paid exactly
once; nothing is ever paid for a sequence that was not sent. -/
theorem fee_paid_exactly_once (w : World) (steps : List Step) (h : Inv w) (g : FInv w) (S D : ChainId) (q : Nat) :
    let w' := run true w steps
    ((w'.chains S).nextSeq D ≤ q → (w'.chains S).evm.feePaid D q = 0) ∧
    (Pending w' S D q → (w'.chains S).evm.feePaid D q = 0) ∧
    ((w'.cfg S).seq0 D ≤ q → q < (w'.chains S).nextSeq D → ¬ Pending w' S D q → (w'.chains S).evm.feePaid D q = 1) ∧
    (w'.chains S).evm.feePaid D q ≤ 1 := by
  have g' := finv_run steps w h g
  refine ⟨g'.f2 S D q, ?_, ?_, g'.f3 S D q⟩
  · intro ⟨r, hr, h1, h2⟩
    have := g'.f1 S r hr
    rwa [h1, h2] at this
  · intro h0 hq hp
    exact (g'.f4 S D q h0 hq).resolve_left hp

/-- **Every accepted receive has an acknowledgement, and its code tells what happened**: after any history, if the
destination holds a receipt for (S, q) then it holds an acknowledgement for it, and the packet's effects have been
applied exactly once if the code is 0 and not at all otherwise. -/
theorem received_has_ack_and_code_decides (w : World) (steps : List Step) (h : FullInv w) (g : FInv w)
    (S D : ChainId) (q : Nat) (hr : ((run true w steps).chains D).receipts S q = true) :
    ∃ code, ((run true w steps).chains D).acks S q = some code ∧
      (code = 0 → ((run true w steps).chains D).evm.credited S q = 1) ∧
      (code ≠ 0 → ((run true w steps).chains D).evm.credited S q = 0) := by
  have g' := finv_run steps w h.1 g
  have gg := (full_run steps w h).2
  have hne := g'.gR S D q hr
  cases hack : ((run true w steps).chains D).acks S q with
  | none => exact absurd hack hne
  | some code =>
    refine ⟨code, rfl, ?_, ?_⟩
    · intro hc; rw [gg.g1 S D q, hack, hc]; rfl
    · intro hc
      rw [gg.g1 S D q, hack]
      simp [hc]

/-- outcome 1 — the callback returned result code 0: success acknowledgement (code 0) and the callback's state,
written back from the cache context, is the chain's state. -/
theorem recv_outcome_ok (cfg : Cfg) (me : ChainId) (c c2 : Chain) (p : Packet) (ha : RecvAccepts cfg me c p)
    (hcb : onRecv cfg me (ctxOf c p) p = .ok c2) : recvHandler true cfg me c p = some (withAck c2 p 0) := by
  rw [recvHandler_eq true ha, hcb]; rfl

/-- outcome 2 — the EVM call reverted: error acknowledgement code 1, nothing but receipt and acknowledgement written. -/
theorem recv_outcome_evmRevert (cfg : Cfg) (me : ChainId) (c : Chain) (p : Packet) (ha : RecvAccepts cfg me c p)
    (hcb : onRecv cfg me (ctxOf c p) p = .evmRevert) : recvHandler true cfg me c p = some (withAck (ctxOf c p) p 1) := by
  rw [recvHandler_eq true ha, hcb]; rfl

/-- outcome 3 — the packet contract RETURNED a non-zero result code (with whatever state): the acknowledgement
carries exactly that code, the code is not 0, and the returned state is discarded. -/
theorem recv_outcome_errorResult (cfg : Cfg) (me : ChainId) (c c2 : Chain) (p : Packet) (code : Nat)
    (ha : RecvAccepts cfg me c p) (hcb : onRecv cfg me (ctxOf c p) p = .errorResult code c2) :
    recvHandler true cfg me c p = some (withAck (ctxOf c p) p code) ∧ code ≠ 0 := by
  refine ⟨?_, onRecv_err hcb⟩
  rw [recvHandler_eq true ha, hcb]; rfl

/-- outcome 4 — a post-transaction hook failed after the EVM had committed into the cache context: error
acknowledgement code 1, the committed state is discarded with the cache context. -/
theorem recv_outcome_hookFail (cfg : Cfg) (me : ChainId) (c c2 : Chain) (p : Packet) (ha : RecvAccepts cfg me c p)
    (hcb : onRecv cfg me (ctxOf c p) p = .hookFail c2) : recvHandler true cfg me c p = some (withAck (ctxOf c p) p 1) := by
  rw [recvHandler_eq true ha, hcb]; rfl

/-- outcome 5 — the EVM run succeeded but writing its state back failed half-way (e.g. the native coin released to a
module account the bank blocks): error acknowledgement code 1; the half-written state is discarded with the cache context. -/
theorem recv_outcome_commitFail (cfg : Cfg) (me : ChainId) (c c2 : Chain) (p : Packet) (ha : RecvAccepts cfg me c p)
    (hcb : onRecv cfg me (ctxOf c p) p = .commitFail c2) : recvHandler true cfg me c p = some (withAck (ctxOf c p) p 1) := by
  rw [recvHandler_eq true ha, hcb]; rfl

/-- a result code 0 is produced only by a callback whose transfer part was applied (exactly one more `credited`) -/
theorem onRecv_ok_credited {cfg : Cfg} {me : ChainId} {c c2 : Chain} {p : Packet} (h : onRecv cfg me c p = .ok c2) :
    c2.evm.credited = upd2 c.evm.credited p.src p.seq (c.evm.credited p.src p.seq + 1) ∧ c2.acks = c.acks ∧
    c2.receipts = c.receipts := by
  obtain ⟨e, tok, k, hrt, hcase⟩ := onRecv_ok h
  have hcr : e.credited = upd2 c.evm.credited p.src p.seq (c.evm.credited p.src p.seq + 1) :=
    (recvTransfer_eff hrt).cred
  rcases hcase with h1 | ⟨p2, key⟩
  · subst h1; exact ⟨hcr, rfl, rfl⟩
  · exact ⟨by rw [key.cred]; exact hcr, key.acks, key.receipts⟩

/-- **The acknowledgement code decides, whatever the callback did.** Every accepted receive writes an
acknowledgement; code 0 ⇔ the packet's effects were applied exactly once (one more `credited`);
code ≠ 0 ⇔ nothing of the callback is left (EVM state, commitments, sequences as before). -/
theorem recv_code_decides (cfg : Cfg) (me : ChainId) (c c' : Chain) (p : Packet)
    (h : recvHandler true cfg me c p = some c') :
    ∃ code, c'.acks p.src p.seq = some code ∧ c'.receipts p.src p.seq = true ∧
      (code = 0 → c'.evm.credited p.src p.seq = c.evm.credited p.src p.seq + 1) ∧
      (code ≠ 0 → c'.evm = c.evm ∧ c'.commits = c.commits ∧ c'.nextSeq = c.nextSeq) ∧
      (c'.evm.credited p.src p.seq = c.evm.credited p.src p.seq + 1 → code = 0) := by
  rw [recvHandler_eq true (recv_accepts h)] at h
  cases h
  by_cases hc : (onRecv cfg me (ctxOf c p) p).ackCode = 0
  · obtain ⟨c2, hcb⟩ := onRecv_code_zero hc
    obtain ⟨hcr, hak, hrc⟩ := onRecv_ok_credited hcb
    rw [hcb]
    refine ⟨0, withAck_acks _ _ _, ?_, fun _ => ?_, fun h0 => absurd rfl h0, fun _ => rfl⟩
    · show c2.receipts p.src p.seq = true
      rw [hrc]; exact upd2_self _ _ _ _
    · show c2.evm.credited p.src p.seq = _
      rw [hcr]; exact upd2_self _ _ _ _
  · rw [Cb.kept_of_code_ne_zero _ hc]
    exact ⟨_, withAck_acks _ _ _, upd2_self _ _ _ _, fun h0 => absurd h0 hc, fun _ => ⟨rfl, rfl, rfl⟩,
      fun h0 => absurd h0 (Nat.ne_of_lt (Nat.lt_succ_self _))⟩

/-- **The source settles by the code it is given**: code 0 ⇒ status 1, no refund, escrow and bindings untouched;
code ≠ 0 ⇒ status 2 and the error settlement (refund of the transfer, if there is one) executed exactly once more;
in both cases the relay fee is paid once and the commitment is cleared. -/
theorem ack_settles_by_code (cfg : Cfg) (me : ChainId) (c c' : Chain) (p : Packet) (code : Nat) (rel : Option Acct)
    (h : ackHandler cfg me c p code rel = some c') :
    c'.commits = c.commits.erase p ∧
    c'.evm.feePaid p.dst p.seq = c.evm.feePaid p.dst p.seq + 1 ∧
    c'.evm.ackStatus p.dst p.seq = (if code = 0 then 1 else 2) ∧
    (code = 0 → c'.evm.refunded = c.evm.refunded ∧ c'.evm.out = c.evm.out ∧ c'.evm.bindAmt = c.evm.bindAmt) ∧
    (code ≠ 0 → c'.evm.refunded p.dst p.seq = c.evm.refunded p.dst p.seq + 1 ∧
      (∀ T, c'.evm.out T p.dst + fwdAmt p T = c.evm.out T p.dst) ∧
      (∀ V, c'.evm.bindAmt V p.dst = c.evm.bindAmt V p.dst + 10 ^ cfg.scale V p.dst * backAmt p V)) := by
  obtain ⟨_, e, hst, _⟩ := ackHandler_eff h
  refine ⟨e.commits, ?_, hst, ?_, ?_⟩
  · rw [e.fpd]; simp [upd2]
  · intro hc0
    refine ⟨by rw [e.refd]; simp [hc0], ?_, ?_⟩
    · funext T D; simpa [hc0] using e.out T D
    · funext V D; simpa [hc0] using e.bind V D
  · intro hc0
    refine ⟨by rw [e.refd]; simp [hc0, upd2], ?_, ?_⟩
    · intro T; simpa [hc0] using e.out T p.dst
    · intro V; simpa [hc0] using e.bind V p.dst

/-- **Observation outside C03, modelled as it is**: the error acknowledgement of a packet WITHOUT transfer data is
rejected by the source every time (`OnAcknowledgePacket` reverts — the endpoint decodes the empty transfer data — and
with it the whole `MsgAcknowledgement`): nothing changes, … -/
theorem ack_call_only_error_rejected (cfg : Cfg) (me : ChainId) (c : Chain) (p : Packet) (code : Nat) (rel : Option Acct)
    (hcode : code ≠ 0) (ht : p.transfer = none) : ackHandler cfg me c p code rel = none := by
  cases h : ackHandler cfg me c p code rel with
  | none => rfl
  | some c' => exact absurd ht ((ackHandler_eff h).2.2.2.2 hcode)

/-- … so the relayer step leaves the whole world unchanged: commitment, fee escrow, fee-paid counter and status stay
as they are, the packet stays `Pending` (conservation and fee solvency are not affected — the fee of a packet that
is never acknowledged stays in escrow). -/
theorem ack_call_only_error_rejected_unchanged (w : World) (s d : ChainId) (q : Nat) (p : Packet) (code : Nat)
    (hf : findPacket (w.chains s).commits d q = some p) (hack : (w.chains d).acks s q = some code)
    (hcode : code ≠ 0) (ht : p.transfer = none) :
    step true w (.ack s d q) = w ∧ Pending w s d q := by
  refine ⟨?_, p, findPacket_some hf⟩
  simp only [step, hf, hack, ackMsg_of_handler_none (ack_call_only_error_rejected (w.cfg s) s (w.chains s) p code _ hcode ht)]

/-- **An acknowledgement whose relayer the source chain can not resolve is rejected**: the handler fails as a whole
(`ErrRelayerNotFound`) although the keeper had already deleted the commitment and the status had been set — one
transaction, nothing of it stays. -/
theorem ack_unknown_relayer_rejected (cfg : Cfg) (me : ChainId) (c : Chain) (p : Packet) (code : Nat) :
    ackHandler cfg me c p code none = none := by
  cases h : ackHandler cfg me c p code none with
  | none => rfl
  | some c' => exact absurd rfl (ackHandler_eff h).2.2.2.1

/-- … hence the relayer step leaves the WHOLE world unchanged — commitment, escrow, bindings, status, fee escrow —
whatever the code (error: the refund stays possible; success: the fee stays payable), the packet stays `Pending`,
and the same acknowledgement is processed once the registry resolves the name again (`step` is a function of the
current registry: nothing else remembers the failed attempt). -/
theorem ack_unknown_relayer_unchanged (w : World) (s d : ChainId) (q : Nat)
    (hrel : (w.reg s).onTeleport d (w.ackTag d s q) = none) : step true w (.ack s d q) = w := by
  simp only [step]
  split
  · rfl
  split
  · rfl
  rw [hrel, ackMsg_of_handler_none (ack_unknown_relayer_rejected _ _ _ _ _)]

/-- a receive relayed by an account that is not registered as a relayer for the source chain is rejected and
changes nothing (no receipt, no acknowledgement): another relayer can deliver the packet -/
theorem recv_unregistered_signer_unchanged (w : World) (s d : ChainId) (q : Nat) (signer : Acct)
    (hsig : (w.reg d).onOther s signer = none) : step true w (.recv s d q signer) = w := by
  simp only [step]
  split
  · rfl
  rw [hsig]

theorem register_only_registry (w : World) (i : ChainId) (a : Acct) (rank : Nat) (cts : List (ChainId × Nat)) :
    (step true w (.register i a rank cts)).chains = w.chains ∧ (step true w (.register i a rank cts)).cfg = w.cfg ∧
    (step true w (.register i a rank cts)).ackTag = w.ackTag := ⟨rfl, rfl, rfl⟩

/-- a call-only packet whose call data fails: error acknowledgement on the destination; the source rejects the
acknowledgement, the packet stays committed with its fee in escrow and unpaid -/
def callOnlySteps : List Step :=
  [.send 0 0 { dst := 1, token := 1, amount := 0, receiver := 0, call := .plain .fail, feeToken := 1, feeAmount := 9, callback := false },
   .recv 0 1 1 0, .ack 0 1 1]

example : ((run true w0 callOnlySteps).chains 0).commits.length = 1 ∧
    ((run true w0 callOnlySteps).chains 0).evm.feePaid 1 1 = 0 ∧
    ((run true w0 callOnlySteps).chains 0).evm.bal 1 acRelayer = 0 ∧
    ((run true w0 callOnlySteps).chains 0).evm.bal 1 acPacket = 9 ∧
    ((run true w0 callOnlySteps).chains 0).evm.ackStatus 1 1 = 0 ∧
    ((run true w0 callOnlySteps).chains 1).acks 0 1 = some 3 := by decide +kernel

def Leg.isSend : Leg → Bool
  | .send _ => true
  | .approve _ _ => false
  | .fakelog _ => false

theorem batchI_strict_commits (cfg : Cfg) (self : ChainId) (seq0 : ChainId → Nat) (legs : List Leg) (c c' : Chain)
    (h : batchI cfg self seq0 true c legs = some c') :
    c'.commits.length = c.commits.length + (legs.filter Leg.isSend).length := by
  fun_induction batchI cfg self seq0 true c legs with
  | case1 c => cases h; rfl
  | case2 c t n ls ih => exact ih h
  | case3 => cases h
  | case4 _ _ _ _ hst => exact absurd rfl hst
  | case5 => cases h
  | case6 c a ls e1 p _ c1 hk ih =>
    have h1 : c1.commits = p :: c.commits := by rw [(sendKeeper_some hk).2.2]
    rw [ih h, h1, List.filter_cons_of_pos (by rfl : Leg.isSend (.send a) = true),
      List.length_cons, List.length_cons]
    omega
  | case7 c p ls ih => exact ih h

theorem batchI_strict_no_client (cfg : Cfg) (self : ChainId) (seq0 : ChainId → Nat) (a : SendArgs)
    (hc : cfg.clients a.dst = false) (legs : List Leg) (c : Chain) (hmem : Leg.send a ∈ legs) :
    batchI cfg self seq0 true c legs = none := by
  fun_induction batchI cfg self seq0 true c legs with
  | case1 c => cases hmem
  | case2 c t n ls ih => exact ih ((List.mem_cons.mp hmem).resolve_left (fun h => by cases h))
  | case3 => rfl
  | case4 _ _ _ _ hst => exact absurd rfl hst
  | case5 => rfl
  | case6 c b ls e1 p hs c1 hk ih =>
    rcases List.mem_cons.mp hmem with h | h
    · -- the keeper accepted the packet of this very leg: its destination has a client
      cases h
      rw [← (sendEvm_eff (c := c) (by decide) _ e1.agentData hs hk).1, (sendKeeper_some hk).1] at hc
      cases hc
    · exact ih h
  | case7 c p ls ih => exact ih ((List.mem_cons.mp hmem).resolve_left (fun h => by cases h))

/-- **A strict batch is all-or-nothing.** Either the transaction changes nothing, or EVERY `crossChainCall` leg of it
has its packet committed (exactly one new commitment per leg) — there is no outcome in which the endpoint has
escrowed or burnt for a leg whose packet the keeper does not hold. -/
theorem batch_strict_all_or_nothing (w : World) (i : ChainId) (sender : Acct) (legs : List Leg) :
    step true w (.batch i sender true legs) = w ∨
    ((step true w (.batch i sender true legs)).chains i).commits.length =
      (w.chains i).commits.length + (legs.filter Leg.isSend).length := by
  rcases batch_step_cases w i sender true legs with h1 | ⟨e0, c', _, hbi, h1⟩
  · exact Or.inl h1
  · right
    rw [h1, set_chains_eq]
    exact batchI_strict_commits _ _ _ legs { (w.chains i) with evm := e0 } c' hbi

/-- **A batch with a leg towards a chain without client changes nothing** (the post-transaction hook fails on that
leg's `SendPacket`, `ApplyTransaction` reverts the EVM state of ALL legs). -/
theorem batch_leg_without_client_unchanged (w : World) (i : ChainId) (sender : Acct) (legs : List Leg) (a : SendArgs)
    (hmem : Leg.send a ∈ legs) (hc : (w.cfg i).clients a.dst = false) :
    step true w (.batch i sender true legs) = w := by
  rcases batch_step_cases w i sender true legs with h1 | ⟨e0, c', _, hbi, _⟩
  · exact h1
  · rw [batchI_strict_no_client _ _ _ a hc legs _ hmem] at hbi
    cases hbi

/-! a concrete batch: chain 0 with clients of chains 1 and 2 -/

def cfgA3 : Cfg := { clients := fun j => j == 1 || j == 2, trace := fun _ _ => none, ori := fun _ _ => none, scale := fun _ _ => 0 }
def w3 : World :=
  { cfg := fun i => if i = 0 then cfgA3 else cfgB,
    chains := fun i => if i = 0 then { Chain.empty with evm := evm0 } else Chain.empty,
    reg := reg0, ackTag := fun _ _ _ => 0 }

def leg (dst : ChainId) (amt fee : Nat) : Leg :=
  .send { dst := dst, token := 1, amount := amt, receiver := 6, call := .none, feeToken := 1, feeAmount := fee, callback := false }

def batchSteps : List Step :=
  [.transfer 0 1 0 acForwarder 3000,
   .batch 0 0 true [.approve 1 100000, leg 1 300 5, leg 2 200 4],      -- two destinations: both committed
   .batch 0 0 true [leg 1 100 1, leg 3 100 1],                          -- a leg without client: nothing happens
   .batch 0 0 true [leg 1 10 1, leg 1 20 1],                            -- same destination twice: same sequence, nothing happens
   .batch 0 0 false [leg 1 100 1, leg 2 999999 1]]                      -- non-strict: the failing leg alone is skipped

example :
    ((run true w3 batchSteps).chains 0).commits.length = 3 ∧
    ((run true w3 batchSteps).chains 0).evm.out 1 1 = 400 ∧ ((run true w3 batchSteps).chains 0).evm.out 1 2 = 200 ∧
    ((run true w3 batchSteps).chains 0).evm.out 1 3 = 0 ∧
    ((run true w3 batchSteps).chains 0).nextSeq 1 = 3 ∧ ((run true w3 batchSteps).chains 0).nextSeq 2 = 2 ∧
    ((run true w3 batchSteps).chains 0).evm.bal 1 acPacket = 10 ∧
    ((run true w3 batchSteps).chains 0).evm.bal 1 acForwarder = 2390 := by decide +kernel

/-! ### a concrete history with a registry change between the receive and the acknowledgement -/

def regSteps1 : List Step :=
  [.send 0 0 (sendArgs (.plain .fail) 6), .recv 0 1 1 0,
   .register 0 acRelayer 0 [(2, 7)],      -- chain 0 no longer resolves the name "7" for chain 1
   .ack 0 1 1]                            -- the error acknowledgement is rejected: nothing changes, the refund stays possible
def regSteps2 : List Step := regSteps1 ++ [.register 0 acRelayer 0 [(1, 7), (2, 7)], .ack 0 1 1]

example :
    ((run true w0 regSteps1).chains 0).commits.length = 1 ∧ ((run true w0 regSteps1).chains 0).evm.out 1 1 = 2000 ∧
    ((run true w0 regSteps1).chains 0).evm.ackStatus 1 1 = 0 ∧ ((run true w0 regSteps1).chains 0).evm.refunded 1 1 = 0 ∧
    ((run true w0 regSteps1).chains 1).acks 0 1 = some 3 ∧
    ((run true w0 regSteps2).chains 0).commits.length = 0 ∧ ((run true w0 regSteps2).chains 0).evm.out 1 1 = 0 ∧
    ((run true w0 regSteps2).chains 0).evm.ackStatus 1 1 = 2 ∧ ((run true w0 regSteps2).chains 0).evm.refunded 1 1 = 1 ∧
    ((run true w0 regSteps2).chains 0).evm.bal 1 0 = 10000 := by decide +kernel

def Leg.isFakelog : Leg → Bool
  | .fakelog _ => true
  | _ => false

theorem hookPackets_all_foreign (logs : List SentLog) (h : ∀ l ∈ logs, l.1 ≠ acPacket) : hookPackets logs = [] := by
  unfold hookPackets
  have : logs.filter (fun l => l.1 == acPacket) = [] := by
    apply List.filter_eq_nil_iff.mpr
    intro l hl
    simpa using h l hl
  rw [this]; rfl

/-- whatever else a transaction does, the look-alike logs in its receipt change nothing: the transaction commits exactly
what it would commit without them -/
theorem batchI_drop_fakelogs (cfg : Cfg) (self : ChainId) (seq0 : ChainId → Nat) (strict : Bool) :
    ∀ (legs : List Leg) (c : Chain),
      batchI cfg self seq0 strict c legs = batchI cfg self seq0 strict c (legs.filter (fun l => !l.isFakelog)) := by
  intro legs c
  fun_induction batchI cfg self seq0 strict c legs with
  | case1 c => rfl
  | case2 c t n ls ih => simp only [List.filter, Leg.isFakelog, Bool.not_false, batchI]; exact ih
  | case3 c a ls hs hst => simp only [List.filter, Leg.isFakelog, Bool.not_false, batchI, hs, hst, if_true]
  | case4 c a ls hs hst ih =>
    simp only [List.filter, Leg.isFakelog, Bool.not_false, batchI, hs, if_neg hst]; exact ih
  | case5 c a ls e1 p hs hk => simp only [List.filter, Leg.isFakelog, Bool.not_false, batchI, hs, hk]
  | case6 c a ls e1 p hs c1 hk ih => simp only [List.filter, Leg.isFakelog, Bool.not_false, batchI, hs, hk]; exact ih
  | case7 c p ls ih => simp only [List.filter, Leg.isFakelog, Bool.not_true]; exact ih

theorem batch_drop_fakelogs_twoPhase (cfg : Cfg) (self : ChainId) (seq0 : ChainId → Nat) (strict : Bool) (legs : List Leg) (c : Chain) :
    twoPhase cfg self seq0 strict c legs = twoPhase cfg self seq0 strict c (legs.filter (fun l => !l.isFakelog)) := by
  rw [twoPhase_eq_batchI, twoPhase_eq_batchI]; exact batchI_drop_fakelogs cfg self seq0 strict legs c

/-- **The hook ignores foreign logs.** A transaction whose `PacketSent`-shaped logs all come from other addresses than
the packet contract (here: every frame of the batch is a call to a log-emitting contract, with ANY packets encoded in
the data — right source, right destination, the right next sequence included) commits nothing and changes no counter:
commitments, send sequences, receipts, acknowledgements, escrow, bindings and fee records are as before. -/
theorem hook_ignores_foreign_logs (w : World) (i : ChainId) (sender : Acct) (strict : Bool) (legs : List Leg)
    (hall : ∀ l ∈ legs, l.isFakelog = true) :
    let w' := step true w (.batch i sender strict legs)
    (w'.chains i).commits = (w.chains i).commits ∧ (w'.chains i).nextSeq = (w.chains i).nextSeq ∧
    (w'.chains i).receipts = (w.chains i).receipts ∧ (w'.chains i).acks = (w.chains i).acks ∧
    (w'.chains i).evm.out = (w.chains i).evm.out ∧ (w'.chains i).evm.bindAmt = (w.chains i).evm.bindAmt ∧
    (w'.chains i).evm.fee = (w.chains i).evm.fee ∧ (w'.chains i).evm.feePaid = (w.chains i).evm.feePaid ∧
    (∀ j, j ≠ i → w'.chains j = w.chains j) ∧ w'.cfg = w.cfg := by
  rcases batch_step_cases w i sender strict legs with h1 | ⟨e0, c', hle, hbi, h1⟩
  · rw [h1]; exact ⟨rfl, rfl, rfl, rfl, rfl, rfl, rfl, rfl, fun _ _ => rfl, rfl⟩
  · have hnil : legs.filter (fun l => !l.isFakelog) = [] := by
      apply List.filter_eq_nil_iff.mpr
      intro l hl
      simp [hall l hl]
    rw [batchI_drop_fakelogs, hnil] at hbi
    cases hbi
    rw [h1]
    dsimp only
    rw [set_chains_eq]
    exact ⟨rfl, rfl, rfl, rfl, hle.out, hle.bindAmt, hle.fee, hle.feePaid, fun j hj => set_chains_ne _ _ hj, rfl⟩

/-- a concrete batch on chain 0 of `w3`: a look-alike log before and after a genuine send, and alone -/
def fakePacket (dst seq : Nat) : Packet :=
  { src := 0, dst := dst, seq := seq, sender := 0,
    transfer := some { token := 0, ori := none, amount := 1000, receiver := 0 }, call := .none, callback := false }

example :
    let w := run true w3 [.transfer 0 1 0 acForwarder 3000,
      .batch 0 0 true [.fakelog (fakePacket 1 1)],                                                  -- alone, with the right next sequence
      .batch 0 0 true [.approve 1 100000, .fakelog (fakePacket 1 1), leg 1 300 5, .fakelog (fakePacket 1 2), .fakelog (fakePacket 2 1)]]
    (w.chains 0).commits.length = 1 ∧ (w.chains 0).nextSeq 1 = 2 ∧ (w.chains 0).nextSeq 2 = 1 ∧
    (w.chains 0).evm.out 1 1 = 300 ∧ (w.chains 0).evm.out 0 1 = 0 := by decide +kernel

/-- **A restart is the identity in the model**: `step` has the clause `.restart _ _ => w`, and this restates that modelling
decision (so every theorem about `run` ranges over histories with restarts at any point). That an export → import restart
of the xibc module or of the whole application loses nothing the model talks about (escrow, bindings, fee escrow, ack
status, counters, commitments, receipts, acknowledgements, registry) is not proved here: the differential run checks it
with `restart` / `restartapp` operations on the real chains. -/
theorem restart_identity (fixed : Bool) (w : World) (c : ChainId) (whole : Bool) : step fixed w (.restart c whole) = w := rfl

/-- **A discarded execution is the identity in the model**: `step` has the clause `.discard _ => w` (a modelling decision,
restated here). That a step executed on a dropped context (Simulate, CheckTx, a failed multi-message transaction) leaves
the real chain as if it had not run is checked by the differential run (`simrecv` / `simack` operations). -/
theorem discard_identity (fixed : Bool) (w : World) (s : Step) : step fixed w (.discard s) = w := rfl

theorem discard_then (fixed : Bool) (w : World) (s : Step) (rest : List Step) :
    run fixed w (.discard s :: rest) = run fixed w rest := rfl

theorem step_cfg (fixed : Bool) (w : World) (s : Step) : (step fixed w s).cfg = w.cfg := by
  cases s <;> simp only [step]
  all_goals (repeat' split) <;> rfl

theorem run_cfg (fixed : Bool) (steps : List Step) : ∀ w : World, (run fixed w steps).cfg = w.cfg := by
  induction steps with
  | nil => intro w; rfl
  | cons s rest ih => intro w; exact (ih (step fixed w s)).trans (step_cfg fixed w s)

theorem cbset_only_switch (fixed : Bool) (w : World) (i : ChainId) (on : Bool) :
    (step fixed w (.cbset i on)).chains = w.chains ∧ (step fixed w (.cbset i on)).cfg = w.cfg ∧
    (step fixed w (.cbset i on)).reg = w.reg ∧ (step fixed w (.cbset i on)).ackTag = w.ackTag ∧
    (step fixed w (.cbset i on)).cbFail i = on := by
  refine ⟨rfl, rfl, rfl, rfl, ?_⟩
  simp [step, upd1]

/-- **An acknowledgement whose callback contract reverts is rejected as a whole**: whatever the code, the relayer step
leaves the world unchanged — commitment, escrow, bindings, status, fee escrow — and the packet stays `Pending`. -/
theorem ack_callback_reverts_unchanged (w : World) (s d : ChainId) (q : Nat) (p : Packet)
    (hf : findPacket (w.chains s).commits d q = some p) (hcb : p.cbSwitch = true) (hon : w.cbFail s = true) :
    step true w (.ack s d q) = w ∧ Pending w s d q := by
  refine ⟨?_, p, findPacket_some hf⟩
  simp only [step, hf]
  split
  · rfl
  · simp [ackMsg, hcb, hon]

/-- **… and the retry settles it**: once the callback goes through again (switch off), the same acknowledgement is
processed exactly as the handler prescribes — the failed first delivery left no trace (`step` is a function of the
current world only), so the refund of an error acknowledgement happens then, once. -/
theorem ack_retry_after_callback_failure (w : World) (s d : ChainId) (q : Nat) (p : Packet) (code : Nat)
    (hf : findPacket (w.chains s).commits d q = some p) (hack : (w.chains d).acks s q = some code)
    (hcb : p.cbSwitch = true) (hon : w.cbFail s = true) :
    let w1 := step true w (.ack s d q)               -- first delivery: the callback reverts
    let w2 := step true w1 (.cbset s false)          -- the callback contract is repaired
    w1 = w ∧
    step true w2 (.ack s d q) =
      (match ackMsg (w.cfg s) s (w.chains s) p code ((w.reg s).onTeleport d (w.ackTag d s q)) false with
       | none => w2
       | some c => w2.set s c) := by
  intro w1 w2
  have h1 : w1 = w := (ack_callback_reverts_unchanged w s d q p hf hcb hon).1
  refine ⟨h1, ?_⟩
  have hw2 : w2 = { w with cbFail := upd1 w.cbFail s false } := by
    show step true w1 (.cbset s false) = _
    rw [h1]; rfl
  rw [hw2]
  simp only [step, hf, hack, upd1, ↓reduceIte]
  generalize ackMsg (w.cfg s) s (w.chains s) p code ((w.reg s).onTeleport d (w.ackTag d s q)) false = r
  cases r <;> rfl

/-- `type(uint256).max` is an unlimited allowance: `transferFrom` / `burnFrom` do not consume it -/
theorem unlimited_allowance_not_consumed (e : Evm) (t : Token) (a : Acct) (n : Nat) (ht : t ≠ 0)
    (h : e.allow t a = U256 - 1) (hn : n < U256) : spend e t a n = some e := by
  unfold spend
  have h2 : n ≤ U256 - 1 := by omega
  simp [ht, h, h2]

/-- a transfer whose minted amount (amount·10^scale) or whose new total supply does not fit a `uint256` is not
executed: `recvTransfer` fails, so the destination writes an error acknowledgement and keeps no effect
(`recv_error_no_effect`), and the source refunds -/
theorem recvTransfer_overflow (cfg : Cfg) (e : Evm) (p : Packet) (t : Transfer) (v : Token)
    (ht : p.transfer = some t) (hori : t.ori = none) (hv : cfg.trace p.src t.token = some v)
    (hov : U256 ≤ e.supply v + t.amount * 10 ^ cfg.scale v p.src) : recvTransfer cfg e p = none := by
  unfold recvTransfer
  simp [ht, hori, hv, hov]

theorem mint_overflow_unchanged (fixed : Bool) (w : World) (i : ChainId) (t : Token) (who : Acct) (n : Nat)
    (h : U256 ≤ ((w.chains i).evm.supply t) + n) : step fixed w (.mint i t who n) = w := by
  simp [step, h]

/-! planted counters: a world in which nothing has happened yet satisfies every invariant, wherever its send counters
start (`Cfg.seq0`, e.g. 2^63 or 2^64-2 from an imported genesis) — so `conserved_run`, `one_outcome`, `no_double_hold`,
`fee_solvent_run`, `fee_paid_exactly_once` hold for histories on such chains, "every sequence ever sent" meaning every
sequence from `seq0` up to the counter. -/

structure Pristine (w : World) : Prop where
  cfg : ∀ B A T V, (w.cfg B).trace A T = some V ↔ (w.cfg B).ori V A = some T
  commits : ∀ i, (w.chains i).commits = []
  next : ∀ i d, (w.chains i).nextSeq d = (w.cfg i).seq0 d
  rcpt : ∀ i s q, (w.chains i).receipts s q = false
  acks : ∀ i s q, (w.chains i).acks s q = none
  out : ∀ i t d, (w.chains i).evm.out t d = 0
  bind : ∀ i t d, (w.chains i).evm.bindAmt t d = 0
  cred : ∀ i s q, (w.chains i).evm.credited s q = 0
  refd : ∀ i s q, (w.chains i).evm.refunded s q = 0
  fpd : ∀ i s q, (w.chains i).evm.feePaid s q = 0

theorem pristine_invariants (w : World) (h : Pristine w) : FullInv w ∧ FInv w ∧ FeeSolvent w := by
  refine ⟨⟨⟨⟨h.cfg, ?_, ?_, ?_, ?_⟩, ?_⟩, ⟨?_, ?_, ?_, ?_, ?_⟩⟩, ⟨?_, ?_, ?_, ?_, ?_⟩, ?_⟩
  · intro A p hp; rw [h.commits] at hp; cases hp
  · intro A; rw [h.commits]; exact List.Pairwise.nil
  · intro A B s hn; exact absurd (h.acks B A s) hn
  · intro A B s hr; rw [h.rcpt] at hr; cases hr
  · intro A B T _
    unfold eqn
    split <;> simp [h.commits, h.out, h.bind, flight]
  · intro S D q; rw [h.cred, h.acks]; simp
  · intro S D q; rw [h.refd]; exact ⟨Nat.zero_le _, fun h0 => absurd h0 (by decide)⟩
  · intro S p hp; exact h.refd S _ _
  · intro S D q _; exact h.refd S D q
  · intro S D q h0 hq; rw [h.next] at hq; omega
  · intro S p hp; exact h.fpd S _ _
  · intro S D q _; exact h.fpd S D q
  · intro S D q; rw [h.fpd]; exact Nat.zero_le _
  · intro S D q h0 hq; rw [h.next] at hq; omega
  · intro S D q hr; rw [h.rcpt] at hr; cases hr
  · intro S F; unfold escrowFee; rw [h.commits]; exact Nat.zero_le _

theorem pristine_of_empty (w : World) (hcfg : ∀ B A T V, (w.cfg B).trace A T = some V ↔ (w.cfg B).ori V A = some T)
    (hch : ∀ i, ∃ bal al, w.chains i =
      { Chain.empty with evm := { Evm.empty with bal := bal, allow := al }, nextSeq := (w.cfg i).seq0 }) : Pristine w := by
  refine ⟨hcfg, ?_, ?_, ?_, ?_, ?_, ?_, ?_, ?_, ?_⟩
  all_goals intro i
  all_goals obtain ⟨bal, al, h⟩ := hch i
  all_goals rw [h]
  all_goals intros
  all_goals rfl

/-! the concrete world `w0` is pristine: the hypotheses of the theorems about `run` can be met -/

theorem cfg_w0 (B A : ChainId) (T V : Token) : (w0.cfg B).trace A T = some V ↔ (w0.cfg B).ori V A = some T := by
  unfold w0 cfgA cfgB
  by_cases hB : B = 0
  · simp [hB]
  · simp only [hB, ↓reduceIte]
    constructor
    · intro h
      split at h
      · rename_i hc; cases h; simp [hc.1, hc.2]
      · cases h
    · intro h
      split at h
      · rename_i hc; cases h; simp [hc.1, hc.2]
      · cases h

theorem pristine_w0 : Pristine w0 := by
  refine pristine_of_empty w0 cfg_w0 (fun i => ?_)
  by_cases hi : i = 0 <;> simp only [w0, hi, ↓reduceIte] <;> exact ⟨_, _, rfl⟩

theorem inv_w0 : Inv w0 := (pristine_invariants w0 pristine_w0).1.1

theorem fullinv_w0 : FullInv w0 := (pristine_invariants w0 pristine_w0).1

theorem finv_w0 : FInv w0 := (pristine_invariants w0 pristine_w0).2.1

theorem feeSolvent_w0 : FeeSolvent w0 := (pristine_invariants w0 pristine_w0).2.2

/-- non-vacuity of `conserved_run`: a non-trivial history from the concrete world -/
example : Conserved (run true w0 (f13Steps ++ [.send 0 0 (sendArgs .none 7), .recv 0 1 2 0, .ack 0 1 2])) :=
  conserved_run w0 _ inv_w0

/-- non-vacuity: after the F13 history (repaired handler) packet 0→1 #1 is `Refunded`. -/
example : Refunded (run true w0 f13Steps) 0 1 1 := by
  have := one_outcome w0 f13Steps fullinv_w0 0 1 1 (by decide +kernel) (by decide +kernel)
  rcases this with h | h | h
  · obtain ⟨r, hr, _⟩ := h.1.1
    rw [show ((run true w0 f13Steps).chains 0).commits = [] by decide +kernel] at hr
    cases hr
  · exact absurd h.1.2.1 (by decide +kernel)
  · exact h.1

example : FeeSolvent (run true w0 (f13Steps ++ callOnlySteps)) :=
  fee_solvent_run _ w0 inv_w0 feeSolvent_w0

example : Conserved (run true w0 regSteps2) := conserved_run w0 _ inv_w0

/-- chain 0 with its send counter towards chain 1 planted at 2^63, chain 1 with its counter towards chain 0 at 2^64-2 -/
def cfgAP : Cfg := { cfgA with seq0 := fun d => if d = 1 then 2 ^ 63 else 1 }
def cfgBP : Cfg := { cfgB with seq0 := fun d => if d = 0 then 2 ^ 64 - 2 else 1 }
def wP : World :=
  { cfg := fun i => if i = 0 then cfgAP else cfgBP,
    chains := fun i =>
      if i = 0 then { Chain.empty with evm := evm0, nextSeq := fun d => if d = 1 then 2 ^ 63 else 1 }
      else { Chain.empty with nextSeq := fun d => if d = 0 then 2 ^ 64 - 2 else 1 },
    reg := reg0, ackTag := fun _ _ _ => 0 }

theorem pristine_wP : Pristine wP := by
  refine pristine_of_empty wP (fun B A T V => ?_) (fun i => ?_)
  · have := cfg_w0 B A T V
    unfold w0 at this; unfold wP cfgAP cfgBP
    by_cases hB : B = 0 <;> simp only [hB, ↓reduceIte] at this ⊢ <;> exact this
  · by_cases hi : i = 0 <;> simp only [wP, hi, ↓reduceIte] <;> exact ⟨_, _, rfl⟩

example : Conserved (run true wP [.send 0 0 (sendArgs (.plain .fail) 6), .recv 0 1 (2 ^ 63) 0, .restart 0 true,
    .discard (.ack 0 1 (2 ^ 63)), .ack 0 1 (2 ^ 63)]) :=
  conserved_run wP _ (pristine_invariants wP pristine_wP).1.1

example :
    let w := run true wP [.send 0 0 (sendArgs (.plain .fail) 6), .recv 0 1 (2 ^ 63) 0, .restart 0 true,
      .discard (.ack 0 1 (2 ^ 63)), .ack 0 1 (2 ^ 63)]
    (w.chains 0).nextSeq 1 = 2 ^ 63 + 1 ∧ (w.chains 1).acks 0 (2 ^ 63) = some 3 ∧ (w.chains 0).commits.length = 0 ∧
    (w.chains 0).evm.refunded 1 (2 ^ 63) = 1 ∧ (w.chains 0).evm.out 1 1 = 0 ∧ (w.chains 0).evm.bal 1 0 = 10000 := by decide +kernel

/-- a concrete history: the error acknowledgement of a packet whose callback contract reverts is rejected (nothing
changes), the retry after the switch is off refunds once -/
def cbSteps1 : List Step :=
  [.send 0 0 { sendArgs (.plain .fail) 6 with cbSwitch := true }, .recv 0 1 1 0, .cbset 0 true, .ack 0 1 1]
def cbSteps2 : List Step := cbSteps1 ++ [.cbset 0 false, .ack 0 1 1]

example :
    ((run true w0 cbSteps1).chains 0).commits.length = 1 ∧ ((run true w0 cbSteps1).chains 0).evm.out 1 1 = 2000 ∧
    ((run true w0 cbSteps1).chains 0).evm.ackStatus 1 1 = 0 ∧ ((run true w0 cbSteps1).chains 0).evm.refunded 1 1 = 0 ∧
    ((run true w0 cbSteps1).chains 0).evm.feePaid 1 1 = 0 ∧
    ((run true w0 cbSteps2).chains 0).commits.length = 0 ∧ ((run true w0 cbSteps2).chains 0).evm.out 1 1 = 0 ∧
    ((run true w0 cbSteps2).chains 0).evm.ackStatus 1 1 = 2 ∧ ((run true w0 cbSteps2).chains 0).evm.refunded 1 1 = 1 ∧
    ((run true w0 cbSteps2).chains 0).evm.feePaid 1 1 = 1 ∧ ((run true w0 cbSteps2).chains 0).evm.bal 1 0 = 10000 := by decide +kernel

/-- a packet that releases the native coin to a blocked account makes the commit fail — with or without call data (unless
the call data reverts the whole EVM call first) — and the state the callback leaves behind on ITS context is half-written:
`outTokens` already decremented (as in the complete state `e`), the receiver not credited -/
theorem onRecv_blocked_release (cfg : Cfg) (me : ChainId) (c : Chain) (p : Packet) (e : Evm) (tok : Token) (k : Nat)
    (hrt : recvTransfer cfg c.evm p = some (e, tok, k)) (hb : blockedRelease p = true) (hcall : p.call ≠ .plain .revert) :
    ∃ c2, onRecv cfg me c p = .commitFail c2 ∧ c2.evm.out = e.out ∧
      c2.evm.bal 0 (releaseTo p) = c.evm.bal 0 (releaseTo p) ∧ c2.evm.credited = e.credited := by
  refine ⟨{ c with evm := { e with bal := upd2 e.bal 0 (releaseTo p) (c.evm.bal 0 (releaseTo p)) } }, ?_, rfl, ?_, rfl⟩
  · unfold onRecv
    simp only [hrt, hb, hcall, ne_eq, not_false_eq_true, and_self, ↓reduceIte]
  · simp [upd2]

/-- the relayer step: a receive that ends in an error acknowledgement changes nothing on any chain but the receipt and
the acknowledgement on the destination -/
theorem recv_step_error_ack_unchanged (w : World) (hw : WF w) (s d : ChainId) (q : Nat) (signer : Acct)
    (herr : ((step true w (.recv s d q signer)).chains d).acks s q ≠ some 0) :
    ∀ i, ((step true w (.recv s d q signer)).chains i).evm = (w.chains i).evm ∧
         ((step true w (.recv s d q signer)).chains i).commits = (w.chains i).commits ∧
         ((step true w (.recv s d q signer)).chains i).nextSeq = (w.chains i).nextSeq := by
  intro i
  rcases recv_step_cases w s d q signer with h1 | ⟨p, c', tag, hf, hr, h1⟩
  · rw [h1]; exact ⟨rfl, rfl, rfl⟩
  rw [h1] at herr ⊢
  obtain ⟨hmem, _, hps⟩ := findPacket_some hf
  have hsrc : p.src = s := (hw.pkt s p hmem).1
  dsimp only at herr ⊢
  by_cases hi : i = d
  · subst hi
    rw [set_chains_eq] at herr ⊢
    rw [← hsrc, ← hps] at herr
    exact recv_error_no_effect _ _ _ _ p hr herr
  · rw [set_chains_ne _ _ hi]
    exact ⟨rfl, rfl, rfl⟩

/-! The handler that `seeded/C03-8` plants: plain transfers (no call data) run on `ctx` itself, everything else on the
cache context — and a concrete packet on which that loses value: 400 of the native coin released to a blocked account -/

def recvHandlerPlainOnCtx (cfg : Cfg) (self : ChainId) (c : Chain) (p : Packet) : Option Chain :=
  if p.call = .none then recvHandler false cfg self c p else recvHandler true cfg self c p

/-- chain 0 holds 1000 of its native coin in escrow for chain 1 -/
def cHome : Chain :=
  { Chain.empty with evm := { Evm.empty with bal := fun t a => if t = 0 ∧ a = acEndpoint then 1000 else 0,
                                             out := fun t d => if t = 0 ∧ d = 1 then 1000 else 0 } }
/-- 400 of the voucher come home from chain 1, to be released to the gov module account (13) -/
def pHome : Packet :=
  { src := 1, dst := 0, seq := 1, sender := 0, transfer := some { token := 2, ori := some 0, amount := 400, receiver := 13 },
    call := .none, callback := false }

example :
    -- repaired handler: error acknowledgement 1, escrow and outTokens untouched
    ((recvHandler true cfgA 0 cHome pHome).map fun c => (c.acks 1 1, c.evm.out 0 1, c.evm.bal 0 acEndpoint, c.evm.bal 0 13))
      = some (some 1, 1000, 1000, 0) ∧
    -- plain transfers on ctx: the same error acknowledgement (the source will refund the 400) — but 400 have left the escrow
    ((recvHandlerPlainOnCtx cfgA 0 cHome pHome).map fun c => (c.acks 1 1, c.evm.out 0 1, c.evm.bal 0 acEndpoint, c.evm.bal 0 13))
      = some (some 1, 600, 600, 0) := by decide +kernel

/-- **Module-initiated calls run the packet hook over their logs exactly like user transactions**: whenever the receive
callback (a module-initiated EVM call) succeeds, either it announced no packet and the commitments are as before, or the
packet it announced (the agent's nested `crossChainCall`: escrowed / burnt inside that call) has been committed by the
hook of that very call and the send counter advanced — there is no successful module call whose `PacketSent` event has
no commitment. (The fee payout and the callbacks of an acknowledgement go through the same `CallEVMWithData`; the source
fact that no contract method is exempt from the hooks is the guard fact on `Keeper.CallPacket` / `CallEVMWithData`.) -/
theorem module_call_hooks_run {cfg : Cfg} {me : ChainId} {c c2 : Chain} {p : Packet}
    (h : onRecv cfg me c p = .ok c2) :
    c2.commits = c.commits ∨ ∃ p2, c2.commits = p2 :: c.commits ∧ c2.nextSeq p2.dst = p2.seq + 1 := by
  obtain ⟨e, tok, k, _, hcase⟩ := onRecv_ok h
  rcases hcase with h1 | ⟨p2, key⟩
  · left; subst h1; rfl
  · exact Or.inr ⟨p2, key.commits, by rw [key.nextSeq]; exact upd1_eq _ _ _⟩

/-- **An acknowledgement touches only its own packet.** Whatever its outcome (accepted with any code, rejected), the
relay of the acknowledgement of packet (s → d, q) is a frame on every other packet: every other chain is unchanged, and on
the source every commitment other than that of (d, q) is still there — so each of those packets can still be
acknowledged (delivered-and-settled or refunded) later, in whatever order the acknowledgements arrive and however many
packets are in flight on the path; no commitment appears; counters, receipts and acknowledgements of the source are as
before. (Store keys of different sequences never alias in the model: commitments are a set of packets keyed by
(dst, seq); the harness checks the same of the real store, where `…/sequences/1` is a byte prefix of `…/sequences/10`.) -/
theorem ack_touches_only_its_packet (w : World) (s d : ChainId) (q : Nat) :
    let w' := step true w (.ack s d q)
    (∀ i, i ≠ s → w'.chains i = w.chains i) ∧
    (∀ p', p' ∈ (w.chains s).commits → ¬ (p'.dst = d ∧ p'.seq = q) → p' ∈ (w'.chains s).commits) ∧
    (∀ p', p' ∈ (w'.chains s).commits → p' ∈ (w.chains s).commits) ∧
    (w'.chains s).nextSeq = (w.chains s).nextSeq ∧ (w'.chains s).receipts = (w.chains s).receipts ∧
    (w'.chains s).acks = (w.chains s).acks := by
  rcases ack_step_uses_destination_code w s d q with h1 | ⟨p, code, c, hf, _, hh, _, h1⟩
  · rw [h1]; exact ⟨fun _ _ => rfl, fun _ h _ => h, fun _ h => h, rfl, rfl, rfl⟩
  rw [h1]
  obtain ⟨_, hpd, hps⟩ := findPacket_some hf
  obtain ⟨_, e⟩ := ack_eff hh
  refine ⟨fun i hi => set_chains_ne _ _ hi, ?_, ?_, ?_, ?_, ?_⟩
  · intro p' hm hne
    rw [set_chains_eq, e.commits]
    have : p' ≠ p := fun h => hne (by rw [h]; exact ⟨hpd, hps⟩)
    exact (List.mem_erase_of_ne this).mpr hm
  · intro p' hm
    rw [set_chains_eq, e.commits] at hm
    exact List.mem_of_mem_erase hm
  · rw [set_chains_eq]; exact e.nextSeq
  · rw [set_chains_eq]; exact e.receipts
  · rw [set_chains_eq]; exact e.acks

/-- … in particular a packet that is `Pending` stays `Pending` through the acknowledgement of any other packet -/
theorem pending_survives_foreign_ack (w : World) (s d : ChainId) (q : Nat) (S D : ChainId) (q' : Nat)
    (hp : Pending w S D q') (hne : ¬ (S = s ∧ D = d ∧ q' = q)) : Pending (step true w (.ack s d q)) S D q' := by
  obtain ⟨hother, hkeep, _⟩ := ack_touches_only_its_packet w s d q
  refine hp.mono (fun r hr h1 h2 => ?_)
  by_cases hS : S = s
  · subst hS
    exact hkeep r hr (fun hh => hne ⟨rfl, h1 ▸ hh.1, h2 ▸ hh.2⟩)
  · rw [hother S hS]; exact hr

/-! ### module-initiated calls WITHOUT hooks (aggregate conversions of a programmable token) -/

theorem batchEvm_nosend (cfg : Cfg) (self : ChainId) (seq0 : ChainId → Nat) (strict : Bool) :
    ∀ (legs : List Leg) (e e1 : Evm) (logs : List SentLog), (∀ l ∈ legs, l.isSend = false) →
      batchEvm cfg self seq0 strict e legs = some (e1, logs) → BridgeLe e e1
  | [], e, e1, logs, _, h => by
    simp only [batchEvm] at h
    have := (Prod.mk.inj (Option.some.inj h)).1.symm; subst this
    exact BridgeLe.refl _
  | .approve t n :: ls, e, e1, logs, hno, h => by
    simp only [batchEvm] at h
    have ih := batchEvm_nosend cfg self seq0 strict ls _ e1 logs (fun l hl => hno l (List.mem_cons_of_mem _ hl)) h
    exact ⟨ih.out, ih.bindAmt, ih.credited, ih.refunded, ih.feePaid, ih.fee, ih.bal⟩
  | .fakelog q :: ls, e, e1, logs, hno, h => by
    simp only [batchEvm] at h
    split at h
    · cases h
    · rename_i e2 ps hb
      have he : e1 = e2 := (Prod.mk.inj (Option.some.inj h)).1.symm
      subst he
      exact batchEvm_nosend cfg self seq0 strict ls e e1 ps (fun l hl => hno l (List.mem_cons_of_mem _ hl)) hb
  | .send a :: ls, e, e1, logs, hno, _ => by
    have := hno (.send a) (List.mem_cons_self ..)
    simp [Leg.isSend] at this

/-- **Conservation holds across a hook-less module call IF the call announces no packet.** The hypothesis `hno` — the
token's code emits no `PacketSent` inside `transfer` / `mint` / `burn` — is exactly what the code does NOT enforce: the
aggregate keeper commits whatever the token contract did and runs no post-transaction hook (see the witness below and
the standing finding `C03:value-locked-without-commitment:aggregate-conversion:*`). All theorems about `run` are about
histories whose steps are the `Step`s of the model; a conversion of a programmable token is not one of them. -/
theorem conservation_if_module_calls_emit_no_send (w : World) (i : ChainId) (legs : List Leg) (c' : Chain)
    (h : Inv w) (hno : ∀ l ∈ legs, l.isSend = false)
    (hc : moduleCallNoHooks (w.cfg i) i (w.chains i) legs = some c') : Inv (w.set i c') := by
  unfold moduleCallNoHooks at hc
  split at hc
  · cases hc
  · rename_i e1 logs hb
    cases hc
    have hle := batchEvm_nosend _ _ _ _ legs _ e1 logs hno hb
    exact inv_same h (SameBridge.set w i hle)

/-- `w3` after the forwarder contract has been given 3000 of token 1 -/
def wTok : World := run true w3 [.transfer 0 1 0 acForwarder 3000]

/-- Without the hypothesis of `conservation_if_module_calls_emit_no_send` conservation fails: the token's `transfer`
bridges 300 of a token it holds (one `crossChainCall` frame): escrow and `outTokens` grow by 300, no commitment is stored,
the counter does not move. -/
theorem module_call_send_values :
    ((moduleCallNoHooks cfgA3 0 (wTok.chains 0) [.approve 1 100000, leg 1 300 0]).map
      fun c => (c.evm.out 1 1, c.evm.bal 1 acEndpoint, c.commits.length, c.nextSeq 1)) = some (300, 300, 0, 1) := by decide +kernel

theorem module_call_send_some :
    (moduleCallNoHooks (wTok.cfg 0) 0 (wTok.chains 0) [.approve 1 100000, leg 1 300 0]).isSome = true := by
  decide +kernel

theorem module_call_send_breaks_conservation :
    ∃ c', moduleCallNoHooks (wTok.cfg 0) 0 (wTok.chains 0) [.approve 1 100000, leg 1 300 0] = some c' ∧
      ¬ Conserved (wTok.set 0 c') :=
  ⟨_, (Option.some_get module_call_send_some).symm,
    not_conserved _ 0 1 1 2 (by decide) (by decide +kernel) (by decide +kernel)⟩

end TM.World
