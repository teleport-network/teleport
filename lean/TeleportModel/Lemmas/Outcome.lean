import TeleportModel.Base.Util
/-
What the proof files share about `Outcome`, `Except` and byte strings.

A handler of the models is a chain of `if <check fails> then .err … else …` (or `.panic …`, or `.error …` in `Except`)
and `>>=`. When such a chain ends in `.ok`, every check in front was passed: the three `ite_*_eq_ok` lemmas take one
check off a hypothesis `… = .ok a` by unification, without traversing the rest of the chain.
-/
namespace TM

theorem ite_err_eq_ok {α : Type} {c : Prop} [Decidable c] {e : String} {x : Outcome α} {a : α} :
    (if c then .err e else x) = .ok a ↔ ¬ c ∧ x = .ok a := by
  by_cases h : c <;> simp [h]

theorem ite_panic_eq_ok {α : Type} {c : Prop} [Decidable c] {e : String} {x : Outcome α} {a : α} :
    (if c then .panic e else x) = .ok a ↔ ¬ c ∧ x = .ok a := by
  by_cases h : c <;> simp [h]

theorem ite_error_eq_ok {ε α : Type} {c : Prop} [Decidable c] {e : ε} {x : Except ε α} {a : α} :
    (if c then .error e else x) = .ok a ↔ ¬ c ∧ x = .ok a := by
  by_cases h : c <;> simp [h]

theorem bind_eq_ok {α β : Type} {o : Outcome α} {f : α → Outcome β} {b : β} :
    (o >>= f) = .ok b ↔ ∃ a, o = .ok a ∧ f a = .ok b := by
  cases o <;> simp [Bind.bind, Outcome.bind]

/-- Instance search reaches this only through the order classes of `Std`; stated here so that it is found at once. -/
instance lawfulBEqByte : LawfulBEq UInt8 := inferInstance

theorem bytes_beq {a b : Bytes} : (a == b) = true ↔ a = b := beq_iff_eq

end TM
