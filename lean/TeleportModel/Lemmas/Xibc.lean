import TeleportModel.Model.Xibc
import TeleportModel.Lemmas.Outcome
/-
The shared XIBC model: table algebra; for each handler one exact characterisation of what it did when it succeeded
(a guard chain is peeled by `ite_error_eq_ok`, a `match` by a case split on its scrutinee); `Step`, what one
delivery does by kind of message; `run_potential`, the counting argument over runs.
-/
namespace TM.Xibc

namespace Tab
variable {κ α : Type} [DecidableEq κ]

theorem get_cons (e : κ × α) (m : Tab κ α) (k : κ) :
    get (e :: m) k = if e.1 = k then some e.2 else get m k := by
  unfold get
  simp only [List.find?_cons]
  by_cases h : e.1 = k <;> simp [h]

theorem get_del (m : Tab κ α) (k k' : κ) :
    get (del m k) k' = if k' = k then none else get m k' := by
  unfold get del
  -- a lookup in the filtered list is a lookup for "not `k`, and `k'`"
  rw [List.find?_filter]
  by_cases h : k' = k
  · subst h
    rw [if_pos rfl, Option.map_eq_none_iff, List.find?_eq_none]
    intro x _; simp
  · rw [if_neg h]
    congr 2
    funext x
    by_cases hx : x.1 = k' <;> simp [hx, h]

theorem get_set (m : Tab κ α) (k k' : κ) (v : α) :
    get (set m k v) k' = if k' = k then some v else get m k' := by
  unfold set
  rw [get_cons, get_del]
  by_cases h : k' = k
  · simp [h]
  · have : ¬ k = k' := fun e => h e.symm
    simp [h, this]

theorem has_set (m : Tab κ α) (k k' : κ) (v : α) :
    has (set m k v) k' = (decide (k' = k) || has m k') := by
  unfold has
  rw [get_set]
  by_cases h : k' = k <;> simp [h]

theorem has_del (m : Tab κ α) (k k' : κ) :
    has (del m k) k' = (!decide (k' = k) && has m k') := by
  unfold has
  rw [get_del]
  by_cases h : k' = k <;> simp [h]

theorem has_eq_true_iff (m : Tab κ α) (k : κ) : has m k = true ↔ ∃ v, get m k = some v := by
  unfold has
  cases get m k <;> simp

theorem has_eq_false_iff (m : Tab κ α) (k : κ) : has m k = false ↔ get m k = none := by
  unfold has
  cases get m k <;> simp

/-- Go's `Get` returns nil for an absent key; a non-empty value read that way was stored -/
theorem get_of_getD {m : Tab κ Bytes} {k : κ} {v : Bytes} (h : (get m k).getD [] = v) (hv : v ≠ []) :
    get m k = some v := by
  cases hg : get m k with
  | none => rw [hg] at h; exact absurd h.symm hv
  | some w => rw [hg] at h; exact congrArg some h

end Tab

/-- a TSS client accepts exactly its own address as signer, whatever the proof field holds -/
theorem tss_verify_signer {env : Env} {name : Bytes} {cl : Client} {now : UInt64} {h : Height} {s pf path value : Bytes}
    (hk : cl.kind = .tss) (hv : cl.verify env name now h (cl.effProof s pf) path value = true) : s = cl.tssAddr := by
  unfold Client.verify at hv
  rw [hk, Client.effProof, if_pos hk] at hv
  exact bytes_beq.1 hv

theorem writeAck_ok {env : Env} {c c' : Chain} {p : Packet} {ack : Bytes}
    (h : writeAck env c p ack = .ok c') :
    ack ≠ [] ∧ c.acks.has (ackKey p) = false ∧ c.clients.has p.src = true ∧
    c' = { c with acks := c.acks.set (ackKey p) (env.sha256 ack), ackWrites := ackKey p :: c.ackWrites } := by
  simp only [writeAck, ite_error_eq_ok, List.isEmpty_iff, Bool.not_eq_true, Bool.not_eq_true', Bool.not_eq_false] at h
  obtain ⟨h1, h2, h3, h4⟩ := h
  exact ⟨h1, h2, h3, (Except.ok.inj h4).symm⟩

structure KeeperRecvSpec (env : Env) (c : Chain) (now : UInt64) (packet proof : Bytes) (h : Height) (signer : Bytes)
    (c1 : Chain) : Prop where
  decodeOk : ¬ ((env.decodePacket packet).2 = true ∧ (env.decodePacket packet).1.seq = 0)
  valid : validatePacket c (env.decodePacket packet).1 = true
  fresh : c.receipts.has (receiptKey (env.decodePacket packet).1) = false
  verified : ∃ cl, c.clients.get (env.decodePacket packet).1.src = some cl ∧
    cl.verify env (env.decodePacket packet).1.src now h (cl.effProof signer proof)
      (commitKey (env.decodePacket packet).1) (env.sha256 (env.encodePacket (env.decodePacket packet).1)) = true
  receipts : c1.receipts = c.receipts.set (receiptKey (env.decodePacket packet).1) [1]
  commits : c1.commits =
    if ((env.decodePacket packet).1.dst != c.name && c.clients.has (env.decodePacket packet).1.dst) = true
    then c.commits.set (commitKey (env.decodePacket packet).1) (env.sha256 (env.encodePacket (env.decodePacket packet).1))
    else c.commits
  name : c1.name = c.name
  clients : c1.clients = c.clients
  relayers : c1.relayers = c.relayers
  acks : c1.acks = c.acks
  nextSeq : c1.nextSeq = c.nextSeq
  evm : c1.evm = c.evm
  ackWrites : c1.ackWrites = c.ackWrites

theorem keeperRecv_ok {env : Env} {c c1 : Chain} {now : UInt64} {packet proof : Bytes} {h : Height} {signer : Bytes}
    (hk : keeperRecv env c now packet proof h signer = .ok c1) :
    KeeperRecvSpec env c now packet proof h signer c1 := by
  simp only [keeperRecv, ite_error_eq_ok, Bool.not_eq_true', Bool.not_eq_false] at hk
  obtain ⟨hd, hv, hf, hk⟩ := hk
  rw [Bool.and_eq_true, beq_iff_eq] at hd
  cases hcl : c.clients.get (env.decodePacket packet).1.src with
  | none => rw [hcl] at hk; cases hk
  | some cl =>
    simp only [hcl, ite_error_eq_ok, Bool.not_eq_false] at hk
    obtain ⟨hver, hk⟩ := hk
    have mk := KeeperRecvSpec.mk (c1 := c1) hd hv (Bool.not_eq_true _ ▸ hf) ⟨cl, hcl, hver⟩
    -- both outcomes of the relay test end in `.ok`; they differ in `commits` only
    split at hk
    · rename_i h5; cases hk
      exact mk rfl (if_pos h5).symm rfl rfl rfl rfl rfl rfl rfl
    · rename_i h5; cases hk
      exact mk rfl (if_neg h5).symm rfl rfl rfl rfl rfl rfl rfl

/-- bytes handed to WriteAcknowledgement for a packet addressed to this chain -/
def ackOfCallback (env : Env) (cb : Callback) (relayer : Bytes) (fee : UInt64) : Option Bytes :=
  match cb with
  | .fail => some (env.encodeAck ⟨1, [], errMsgCallback, relayer, fee⟩)
  | .ok code r m => some (env.encodeAck ⟨code, r, m, relayer, fee⟩)
  | .undecodable => none

/-- how the acknowledgement store moved in an accepted receive -/
inductive RecvAckEffect (env : Env) (c c' : Chain) (p : Packet) (cb : Callback) (relayer : Bytes) : Prop
  | relayed (hd : p.dst ≠ c.name) (hc : c.clients.has p.dst = true)
      (hacks : c'.acks = c.acks) (hw : c'.ackWrites = c.ackWrites) (hevm : c'.evm = c.evm)
      (hcommits : c'.commits = c.commits.set (commitKey p) (env.sha256 (env.encodePacket p)))
  | acked (ackBz : Bytes) (hne : ackBz ≠ []) (hfresh : c.acks.has (ackKey p) = false)
      (hacks : c'.acks = c.acks.set (ackKey p) (env.sha256 ackBz)) (hw : c'.ackWrites = ackKey p :: c.ackWrites)
      (hcommits : c'.commits = c.commits)
      (hwhich : (p.dst = c.name ∧ ackOfCallback env cb relayer p.feeOption = some ackBz ∧
                  c'.evm = if cb.committed then .recvCallback (receiptKey p) :: c.evm else c.evm) ∨
                (p.dst ≠ c.name ∧ c.clients.has p.dst = false ∧
                  ackBz = env.encodeAck ⟨1, [], errMsgDst, relayer, p.feeOption⟩ ∧ c'.evm = c.evm))

/-- complete description of an accepted receive in terms of the state before and after -/
structure RecvEffect (env : Env) (c c' : Chain) (now : UInt64) (packet proof : Bytes) (h : Height) (signer : Bytes)
    (cb : Callback) : Prop where
  basic : recvBasic env packet h signer = true
  valid : validatePacket c (env.decodePacket packet).1 = true
  fresh : c.receipts.has (receiptKey (env.decodePacket packet).1) = false
  verified : ∃ cl, c.clients.get (env.decodePacket packet).1.src = some cl ∧
    cl.verify env (env.decodePacket packet).1.src now h (cl.effProof signer proof)
      (commitKey (env.decodePacket packet).1) (env.sha256 (env.encodePacket (env.decodePacket packet).1)) = true
  receipts : c'.receipts = c.receipts.set (receiptKey (env.decodePacket packet).1) [1]
  name : c'.name = c.name
  clients : c'.clients = c.clients
  relayers : c'.relayers = c.relayers
  nextSeq : c'.nextSeq = c.nextSeq
  relayer : ∃ relayer, relayerOnOtherChain c (env.decodePacket packet).1.src signer = .found relayer ∧
    RecvAckEffect env c c' (env.decodePacket packet).1 cb relayer

theorem relayerOnOtherChain_congr {c c1 : Chain} (h : c1.relayers = c.relayers) (chain addr : Bytes) :
    relayerOnOtherChain c1 chain addr = relayerOnOtherChain c chain addr := by
  simp [relayerOnOtherChain, getRelayer, h]

theorem handle_recv_effect {env : Env} {c c' : Chain} {now : UInt64} {packet proof : Bytes} {h : Height}
    {signer : Bytes} {cb : Callback} (hh : handle env c now (.recvPacket packet proof h signer cb) = .ok c') :
    RecvEffect env c c' now packet proof h signer cb := by
  simp only [handle, ite_error_eq_ok, Bool.not_eq_true', Bool.not_eq_false] at hh
  obtain ⟨hb, hr⟩ := hh
  unfold recvPacket at hr
  cases hk : keeperRecv env c now packet proof h signer with
  | error e => rw [hk] at hr; cases hr
  | ok c1 =>
    simp only [hk, ite_error_eq_ok] at hr
    obtain ⟨_, hr⟩ := hr
    have spec := keeperRecv_ok hk
    cases hrel : relayerOnOtherChain c1 (env.decodePacket packet).1.src signer with
    | notFound => rw [hrel] at hr; cases hr
    | panic => rw [hrel] at hr; cases hr
    | found relayer =>
      simp only [hrel] at hr
      rw [relayerOnOtherChain_congr spec.relayers] at hrel
      -- in every branch `c'` is `c1` with other acks / ackWrites / evm: the frame fields are read off `spec`
      have mk := RecvEffect.mk (c' := c') (cb := cb) hb spec.valid spec.fresh spec.verified
      by_cases hdst : (env.decodePacket packet).1.dst = c1.name
      · rw [if_pos (bytes_beq.2 hdst)] at hr
        have hd := hdst.trans spec.name
        have hcm : c1.commits = c.commits := by
          simp only [spec.commits, hd, bne_self_eq_false, Bool.false_and, Bool.false_eq_true, if_false]
        -- the callback's outcome decides the ack bytes and whether the callback's effects are kept
        obtain ⟨ackBz, c2, hack, hw, rfl⟩ : ∃ ackBz c2,
            ackOfCallback env cb relayer (env.decodePacket packet).1.feeOption = some ackBz ∧
            writeAck env c1 (env.decodePacket packet).1 ackBz = .ok c2 ∧
            c' = { c2 with evm := if cb.committed then .recvCallback (receiptKey (env.decodePacket packet).1) :: c2.evm
                                  else c2.evm } := by
          cases cb with
          | undecodable => cases hr
          | fail => exact ⟨_, c', rfl, hr, rfl⟩
          | ok code r m =>
            simp only at hr
            split at hr
            · cases hr
            · rename_i c2 hw
              refine ⟨_, c2, rfl, hw, ?_⟩
              -- `committed` is `code == 0`, the handler tests `code != 0`
              cases hcode : code == 0 with
              | true =>
                simp only [bne, hcode, Bool.not_true, Bool.false_eq_true, if_false] at hr
                simp only [Callback.committed, hcode, if_true]
                exact (Except.ok.inj hr).symm
              | false =>
                simp only [bne, hcode, Bool.not_false, if_true] at hr
                simp only [Callback.committed, hcode, Bool.false_eq_true, if_false]
                exact (Except.ok.inj hr).symm
        obtain ⟨hne, hfr, _, rfl⟩ := writeAck_ok hw
        exact mk spec.receipts spec.name spec.clients spec.relayers spec.nextSeq
          ⟨relayer, hrel, .acked _ hne (spec.acks ▸ hfr) (by rw [spec.acks]) (by rw [spec.ackWrites]) hcm
            (.inl ⟨hd, hack, by rw [spec.evm]⟩)⟩
      · rw [if_neg (mt bytes_beq.1 hdst)] at hr
        have hd : (env.decodePacket packet).1.dst ≠ c.name := spec.name ▸ hdst
        cases hc : c.clients.has (env.decodePacket packet).1.dst with
        | false =>
          simp only [spec.clients, hc, Bool.not_false, if_true] at hr
          have hcm : c1.commits = c.commits := by
            simp only [spec.commits, hc, Bool.and_false, Bool.false_eq_true, if_false]
          obtain ⟨hne, hfr, _, rfl⟩ := writeAck_ok hr
          exact mk spec.receipts spec.name spec.clients spec.relayers spec.nextSeq
            ⟨relayer, hrel, .acked _ hne (spec.acks ▸ hfr) (by rw [spec.acks]) (by rw [spec.ackWrites]) hcm
              (.inr ⟨hd, hc, rfl, spec.evm⟩)⟩
        | true =>
          simp only [spec.clients, hc, Bool.not_true, Bool.false_eq_true, if_false] at hr
          cases hr
          exact mk spec.receipts spec.name spec.clients spec.relayers spec.nextSeq
            ⟨relayer, hrel, .relayed hd hc spec.acks spec.ackWrites spec.evm
              (by simp only [spec.commits, hc, Bool.and_true, bne_iff_ne.2 hd, if_true])⟩

theorem RecvEffect.evm_cases {env : Env} {c c' : Chain} {now : UInt64} {packet proof : Bytes} {h : Height} {signer : Bytes}
    {cb : Callback} (eff : RecvEffect env c c' now packet proof h signer cb) :
    c'.evm = c.evm ∨
    (cb.committed = true ∧ c'.evm = .recvCallback (receiptKey (env.decodePacket packet).1) :: c.evm) := by
  obtain ⟨relayer, _, ae⟩ := eff.relayer
  cases ae with
  | relayed _ _ _ _ hevm _ => exact Or.inl hevm
  | acked ackBz _ _ _ _ _ hwhich =>
    rcases hwhich with ⟨_, _, hevm⟩ | ⟨_, _, _, hevm⟩
    · cases hcm : cb.committed with
      | false => rw [hcm] at hevm; exact Or.inl hevm
      | true => rw [hcm] at hevm; exact Or.inr ⟨rfl, hevm⟩
    · exact Or.inl hevm

structure KeeperAckSpec (env : Env) (c : Chain) (now : UInt64) (packet ack proof : Bytes) (h : Height) (signer : Bytes)
    (c1 : Chain) : Prop where
  decodeOk : (env.decodePacket packet).2 = false
  valid : validatePacket c (env.decodePacket packet).1 = true
  committed : (c.commits.get (commitKey (env.decodePacket packet).1)).getD [] =
    env.sha256 (env.encodePacket (env.decodePacket packet).1)
  verified : ∃ cl, c.clients.get (env.decodePacket packet).1.dst = some cl ∧
    cl.verify env (env.decodePacket packet).1.dst now h (cl.effProof signer proof)
      (ackKey (env.decodePacket packet).1) (env.sha256 ack) = true
  commits : c1.commits = c.commits.del (commitKey (env.decodePacket packet).1)
  relayBranch :
    ((env.decodePacket packet).1.src = c.name ∧ c1.acks = c.acks ∧ c1.ackWrites = c.ackWrites) ∨
    ((env.decodePacket packet).1.src ≠ c.name ∧ c.clients.has (env.decodePacket packet).1.src = true ∧
      c1.acks = c.acks.set (ackKey (env.decodePacket packet).1) (env.sha256 ack) ∧
      c1.ackWrites = ackKey (env.decodePacket packet).1 :: c.ackWrites)
  name : c1.name = c.name
  clients : c1.clients = c.clients
  relayers : c1.relayers = c.relayers
  receipts : c1.receipts = c.receipts
  nextSeq : c1.nextSeq = c.nextSeq
  evm : c1.evm = c.evm

theorem keeperAck_ok {env : Env} {c c1 : Chain} {now : UInt64} {packet ack proof : Bytes} {h : Height} {signer : Bytes}
    (hk : keeperAck env c now packet ack proof h signer = .ok c1) :
    KeeperAckSpec env c now packet ack proof h signer c1 := by
  simp only [keeperAck, ite_error_eq_ok, Bool.not_eq_true, Bool.not_eq_true', Bool.not_eq_false, bne_eq_false_iff_eq] at hk
  obtain ⟨hd, hv, hc, hk⟩ := hk
  cases hcl : c.clients.get (env.decodePacket packet).1.dst with
  | none => rw [hcl] at hk; cases hk
  | some cl =>
    simp only [hcl, ite_error_eq_ok, Bool.not_eq_false] at hk
    obtain ⟨hver, hk⟩ := hk
    have mk := KeeperAckSpec.mk (c1 := c1) hd hv hc ⟨cl, hcl, hver⟩
    by_cases h5 : (env.decodePacket packet).1.src = c.name
    · rw [if_neg (by rw [h5, bne_self_eq_false]; exact Bool.false_ne_true)] at hk
      cases hk
      exact mk rfl (.inl ⟨h5, rfl, rfl⟩) rfl rfl rfl rfl rfl rfl
    · rw [if_pos (bne_iff_ne.2 h5)] at hk
      simp only [ite_error_eq_ok, Bool.not_eq_false] at hk
      obtain ⟨h6, hk⟩ := hk
      cases hk
      exact mk rfl (.inr ⟨h5, h6, rfl, rfl⟩) rfl rfl rfl rfl rfl rfl

/-- contract calls of a processed acknowledgement (newest first) -/
def ackEvents (p : Packet) (a : Ack) (relayer : Bytes) : List Event :=
  [.onAck (commitKey p), .feePaid p.dst p.seq relayer, .setAckStatus p.dst p.seq (if a.code == 0 then 1 else 2)]

/-- complete description of an accepted acknowledgement -/
structure AckEffect (env : Env) (c c' : Chain) (now : UInt64) (packet ack proof : Bytes) (h : Height) (signer : Bytes)
    (o : EvmOut) : Prop where
  basic : ackBasic env packet ack h signer = true
  valid : validatePacket c (env.decodePacket packet).1 = true
  committed : (c.commits.get (commitKey (env.decodePacket packet).1)).getD [] =
    env.sha256 (env.encodePacket (env.decodePacket packet).1)
  verified : ∃ cl, c.clients.get (env.decodePacket packet).1.dst = some cl ∧
    cl.verify env (env.decodePacket packet).1.dst now h (cl.effProof signer proof)
      (ackKey (env.decodePacket packet).1) (env.sha256 ack) = true
  commits : c'.commits = c.commits.del (commitKey (env.decodePacket packet).1)
  name : c'.name = c.name
  clients : c'.clients = c.clients
  relayers : c'.relayers = c.relayers
  receipts : c'.receipts = c.receipts
  nextSeq : c'.nextSeq = c.nextSeq
  decoded : ∃ a, env.decodeAck ack = some a ∧ a.isBlank = false ∧
    (((env.decodePacket packet).1.src = c.name ∧ c'.acks = c.acks ∧ c'.ackWrites = c.ackWrites ∧ ∃ relayer,
        relayerOnTeleportIn (env.decodePacket packet).1.dst a.relayer c.relayers = .found relayer ∧
        env.bech32Valid relayer = true ∧ o = ⟨true, true, true⟩ ∧
        c'.evm = ackEvents (env.decodePacket packet).1 a relayer ++ c.evm) ∨
     ((env.decodePacket packet).1.src ≠ c.name ∧ c.clients.has (env.decodePacket packet).1.src = true ∧
        c'.acks = c.acks.set (ackKey (env.decodePacket packet).1) (env.sha256 ack) ∧
        c'.ackWrites = ackKey (env.decodePacket packet).1 :: c.ackWrites ∧ c'.evm = c.evm))

theorem handle_ack_effect {env : Env} {c c' : Chain} {now : UInt64} {packet ack proof : Bytes} {h : Height}
    {signer : Bytes} {o : EvmOut} (hh : handle env c now (.acknowledgement packet ack proof h signer o) = .ok c') :
    AckEffect env c c' now packet ack proof h signer o := by
  simp only [handle, ite_error_eq_ok, Bool.not_eq_true', Bool.not_eq_false] at hh
  obtain ⟨hbasic, hr⟩ := hh
  unfold acknowledgement at hr
  cases hk : keeperAck env c now packet ack proof h signer with
  | error e => rw [hk] at hr; cases hr
  | ok c1 =>
    have spec := keeperAck_ok hk
    cases ha : env.decodeAck ack with
    | none => simp only [hk, ha, ite_error_eq_ok] at hr; cases hr.2
    | some a =>
      simp only [hk, ha, ite_error_eq_ok, Bool.not_eq_true] at hr
      obtain ⟨_, hb, hr⟩ := hr
      -- after the keeper only the contract log moves: the other fields are read off `spec` in both branches
      have mk := AckEffect.mk (c' := c') (o := o) hbasic spec.valid spec.committed spec.verified
      -- the keeper and the message server test `src = self` independently: `spec.relayBranch` is resolved by the same test
      by_cases hsrc : (env.decodePacket packet).1.src = c1.name
      · rw [if_pos (bytes_beq.2 hsrc)] at hr
        simp only [ite_error_eq_ok, relayerOnTeleport, Bool.not_eq_true', Bool.not_eq_false] at hr
        obtain ⟨ho1, hr⟩ := hr
        cases hrel : relayerOnTeleportIn (env.decodePacket packet).1.dst a.relayer c1.relayers with
        | notFound => rw [hrel] at hr; cases hr
        | panic => rw [hrel] at hr; cases hr
        | found relayer =>
          simp only [hrel, ite_error_eq_ok, Bool.not_eq_false] at hr
          obtain ⟨hb32, ho2, ho3, hr⟩ := hr
          cases hr
          have hself := hsrc.trans spec.name
          obtain ⟨_, ha1, ha2⟩ := spec.relayBranch.resolve_right fun hn => hn.1 hself
          have ho : o = ⟨true, true, true⟩ := by
            cases o
            simp only at ho1 ho2 ho3
            rw [ho1, ho2, ho3]
          exact mk spec.commits spec.name spec.clients spec.relayers spec.receipts spec.nextSeq
            ⟨a, ha, hb, .inl ⟨hself, ha1, ha2, relayer, spec.relayers ▸ hrel, hb32, ho, by rw [← spec.evm]; rfl⟩⟩
      · rw [if_neg (mt bytes_beq.1 hsrc)] at hr
        cases hr
        have hother : (env.decodePacket packet).1.src ≠ c.name := spec.name ▸ hsrc
        obtain ⟨_, hc, ha1, ha2⟩ := spec.relayBranch.resolve_left fun hs => hother hs.1
        exact mk spec.commits spec.name spec.clients spec.relayers spec.receipts spec.nextSeq
          ⟨a, ha, hb, .inr ⟨hother, hc, ha1, ha2, spec.evm⟩⟩

theorem AckEffect.evm_cases {env : Env} {c c' : Chain} {now : UInt64} {packet ack proof : Bytes} {h : Height}
    {signer : Bytes} {o : EvmOut} (eff : AckEffect env c c' now packet ack proof h signer o) :
    c'.evm = c.evm ∨ ∃ a relayer, c'.evm = ackEvents (env.decodePacket packet).1 a relayer ++ c.evm := by
  obtain ⟨a, _, _, hc⟩ := eff.decoded
  rcases hc with ⟨_, _, _, relayer, _, _, _, hevm⟩ | ⟨_, _, _, _, hevm⟩
  · exact Or.inr ⟨a, relayer, hevm⟩
  · exact Or.inl hevm

theorem sendPacket_ok {env : Env} {c c' : Chain} {p : Packet} {ok : Bool} (hs : sendPacket env c p ok = .ok c') :
    p.validateBasic = true ∧ p.src = c.name ∧ c.clients.has p.dst = true ∧ p.seq = c.nextSequenceSend p.src p.dst ∧
    c' = { c with nextSeq := c.nextSeq.set (nextSeqKey p.src p.dst) (be8 (c.nextSequenceSend p.src p.dst + 1)),
                  evm := .setSequence p.dst (c.nextSequenceSend p.src p.dst + 1) :: c.evm,
                  commits := c.commits.set (commitKey p) (env.sha256 (env.encodePacket p)) } := by
  simp only [sendPacket, ite_error_eq_ok, Bool.not_eq_true, Bool.not_eq_true', Bool.not_eq_false, bne_eq_false_iff_eq] at hs
  obtain ⟨h1, h2, h3, h4, _, hs⟩ := hs
  exact ⟨h1, h2, h3, h4, (Except.ok.inj hs).symm⟩

/-- what an accepted update stored: for EVERY client kind the client table holds the updated client afterwards, and
nothing else moved -/
theorem updateClient_ok {c c' : Chain} {now : UInt64} {chain : Bytes} {h : Height} {root signer : Bytes} {ok : Bool}
    (hu : updateClient c now chain h root signer ok = .ok c') :
    ∃ cl cl', c.clients.get chain = some cl ∧ ok = true ∧ authRelayer c chain signer = true ∧
      c' = { c with clients := c.clients.set chain cl' } ∧
      ((cl.kind = .tss ∧ signer = cl.tssAddr ∧ cl' = { cl with tssAddr := root }) ∨
       (cl.kind ≠ .tss ∧ cl' = { cl with latest := maxHeight cl.latest h, cons := cl.cons.set h root,
                                         processed := cl.processed.set h now })) := by
  simp only [updateClient, ite_error_eq_ok, Bool.not_eq_true', Bool.not_eq_false] at hu
  obtain ⟨hauth, hu⟩ := hu
  cases hcl : c.clients.get chain with
  | none => rw [hcl] at hu; cases hu
  | some cl =>
    simp only [hcl] at hu
    by_cases hk : cl.kind = .tss
    · rw [if_pos hk] at hu
      simp only [ite_error_eq_ok, Bool.not_eq_true, Bool.not_eq_false, bne_eq_false_iff_eq] at hu
      obtain ⟨hs, hok, hu⟩ := hu
      exact ⟨cl, _, rfl, hok, hauth, (Except.ok.inj hu).symm, Or.inl ⟨hk, hs, rfl⟩⟩
    · rw [if_neg hk] at hu
      simp only [ite_error_eq_ok, Bool.not_eq_false] at hu
      obtain ⟨hok, hu⟩ := hu
      exact ⟨cl, _, rfl, hok, hauth, (Except.ok.inj hu).symm, Or.inr ⟨hk, rfl⟩⟩

theorem toggleClient_ok {c c' : Chain} {chain : Bytes} {cl : Client} (hu : toggleClient c chain cl = .ok c') :
    ∃ cls, c' = { c with clients := cls } := by
  unfold toggleClient at hu
  split at hu
  · cases hu
  · split at hu
    · cases hu
    · injection hu with hu; exact ⟨_, hu.symm⟩

theorem upgradeClient_ok {c c' : Chain} {chain : Bytes} {cl : Client} (hu : upgradeClient c chain cl = .ok c') :
    ∃ cls, c' = { c with clients := cls } := by
  unfold upgradeClient at hu
  split at hu
  · cases hu
  · split at hu
    · injection hu with hu; exact ⟨_, hu.symm⟩
    · cases hu

theorem deliver_cases (env : Env) (c : Chain) (now : UInt64) (m : Msg) :
    (∃ c', handle env c now m = .ok c' ∧ deliver env c now m = (c', .ok)) ∨
    (∃ e, handle env c now m = .error e ∧ deliver env c now m = (c, .err)) := by
  unfold deliver
  cases handle env c now m with
  | ok c' => exact Or.inl ⟨c', rfl, rfl⟩
  | error e => exact Or.inr ⟨e, rfl, rfl⟩

theorem deliver_rejected {env : Env} {c : Chain} {now : UInt64} {m : Msg}
    (h : (deliver env c now m).2 ≠ .ok) : deliver env c now m = (c, .err) := by
  rcases deliver_cases env c now m with ⟨c', _, hd⟩ | ⟨e, _, hd⟩
  · rw [hd] at h; exact absurd rfl h
  · exact hd

/-- transaction atomicity: a rejected message leaves the state unchanged -/
theorem deliver_err_unchanged {env : Env} {c : Chain} {now : UInt64} {m : Msg}
    (h : (deliver env c now m).2 ≠ .ok) : (deliver env c now m).1 = c := by
  rw [deliver_rejected h]

theorem deliver_ok_handle {env : Env} {c : Chain} {now : UInt64} {m : Msg}
    (h : (deliver env c now m).2 = .ok) : handle env c now m = .ok (deliver env c now m).1 := by
  rcases deliver_cases env c now m with ⟨c', hh, hd⟩ | ⟨e, _, hd⟩
  · rw [hd]; exact hh
  · rw [hd] at h; cases h

/-- What one delivery does, by kind of message: nothing if it is rejected; otherwise what `RecvEffect` / `AckEffect`
say of a receive / an acknowledgement, the three writes of a send, and for every other message (client and relayer
administration, restart) a change of the client and relayer tables at most. -/
inductive Step (env : Env) (c : Chain) (now : UInt64) (m : Msg) (c' : Chain) (r : Result) : Prop
  | rejected (hc : c' = c) (hr : r = .err)
  | recv (packet proof : Bytes) (h : Height) (signer : Bytes) (cb : Callback)
      (hm : m = .recvPacket packet proof h signer cb) (hr : r = .ok)
      (eff : RecvEffect env c c' now packet proof h signer cb)
  | ack (packet ack proof : Bytes) (h : Height) (signer : Bytes) (o : EvmOut)
      (hm : m = .acknowledgement packet ack proof h signer o) (hr : r = .ok)
      (eff : AckEffect env c c' now packet ack proof h signer o)
  | send (p : Packet) (ok : Bool) (hm : m = .sendPacket p ok) (hr : r = .ok) (hsrc : p.src = c.name)
      (hc : c' = { c with nextSeq := c.nextSeq.set (nextSeqKey p.src p.dst) (be8 (c.nextSequenceSend p.src p.dst + 1)),
                          evm := .setSequence p.dst (c.nextSequenceSend p.src p.dst + 1) :: c.evm,
                          commits := c.commits.set (commitKey p) (env.sha256 (env.encodePacket p)) })
      (hcl : c.clients.has p.dst = true) (hseq : p.seq = c.nextSequenceSend p.src p.dst)
  | admin (cls : Tab Bytes Client) (rels : List Relayer) (hr : r = .ok)
      (hc : c' = { c with clients := cls, relayers := rels })

theorem deliver_step (env : Env) (c : Chain) (now : UInt64) (m : Msg) :
    Step env c now m (deliver env c now m).1 (deliver env c now m).2 := by
  rcases deliver_cases env c now m with ⟨c', hh, hd⟩ | ⟨e, _, hd⟩
  · rw [hd]
    cases m with
    | recvPacket packet proof h signer cb => exact .recv _ _ _ _ _ rfl rfl (handle_recv_effect hh)
    | acknowledgement packet ack proof h signer o => exact .ack _ _ _ _ _ _ rfl rfl (handle_ack_effect hh)
    | sendPacket p ok => obtain ⟨_, hsrc, hcl, hseq, he⟩ := sendPacket_ok hh; exact .send p ok rfl rfl hsrc he hcl hseq
    | updateClient chain h root signer ok =>
      obtain ⟨_, _, _, _, _, he, _⟩ := updateClient_ok hh; exact .admin _ _ rfl he
    | toggleClient chain cl => obtain ⟨cls, he⟩ := toggleClient_ok hh; exact .admin _ _ rfl he
    | upgradeClient chain cl => obtain ⟨cls, he⟩ := upgradeClient_ok hh; exact .admin _ _ rfl he
    | createClient chain cl | registerRelayer r | restart => cases hh; exact .admin _ _ rfl rfl
  · rw [hd]; exact .rejected rfl rfl

theorem deliver_name (env : Env) (c : Chain) (now : UInt64) (m : Msg) : (deliver env c now m).1.name = c.name := by
  cases deliver_step env c now m with
  | rejected hc _ => rw [hc]
  | recv _ _ _ _ _ _ _ eff => exact eff.name
  | ack _ _ _ _ _ _ _ _ eff => exact eff.name
  | send _ _ _ _ _ hc => rw [hc]
  | admin _ _ _ hc => rw [hc]

theorem run_nil (env : Env) (c : Chain) : run env c [] = (c, []) := rfl

theorem run_cons (env : Env) (c : Chain) (now : UInt64) (m : Msg) (ms : List (UInt64 × Msg)) :
    run env c ((now, m) :: ms) =
      ((run env (deliver env c now m).1 ms).1, (deliver env c now m).2 :: (run env (deliver env c now m).1 ms).2) := rfl

theorem run_length (env : Env) (c : Chain) (ms : List (UInt64 × Msg)) : (run env c ms).2.length = ms.length := by
  induction ms generalizing c with
  | nil => rfl
  | cons x ms ih => obtain ⟨now, m⟩ := x; rw [run_cons]; simp [ih]

theorem run_invariant {env : Env} (P : Chain → Prop) (hstep : ∀ c now m, P c → P (deliver env c now m).1)
    (c : Chain) (ms : List (UInt64 × Msg)) (h : P c) : P (run env c ms).1 := by
  induction ms generalizing c with
  | nil => exact h
  | cons x ms ih => obtain ⟨now, m⟩ := x; rw [run_cons]; exact ih _ (hstep c now m h)

theorem run_filter_cons (f : Result × (UInt64 × Msg) → Bool) (env : Env) (c : Chain) (now : UInt64) (m : Msg)
    (ms : List (UInt64 × Msg)) :
    (((run env c ((now, m) :: ms)).2.zip ((now, m) :: ms)).filter f).length =
      (f ((deliver env c now m).2, (now, m))).toNat +
        (((run env (deliver env c now m).1 ms).2.zip ms).filter f).length := by
  rw [run_cons, List.zip_cons_cons, List.filter_cons]
  cases f ((deliver env c now m).2, (now, m))
  · exact (Nat.zero_add _).symm
  · exact Nat.add_comm _ 1

theorem filter_never {α : Type} (l : List α) : l.filter (fun _ => false) = [] :=
  List.filter_eq_nil_iff.2 fun _ _ h => Bool.noConfusion h

/-- A potential argument over a run: if every delivery satisfies "flagged by `f`" + potential after ≤ potential
before + "flagged by `g`", then so does the whole run, with the numbers of flagged entries. -/
theorem run_potential {env : Env} (f g : Result × (UInt64 × Msg) → Bool) (pot : Chain → Nat)
    (hstep : ∀ c now m, (f ((deliver env c now m).2, (now, m))).toNat + pot (deliver env c now m).1 ≤
      pot c + (g ((deliver env c now m).2, (now, m))).toNat)
    (c : Chain) (ms : List (UInt64 × Msg)) :
    (((run env c ms).2.zip ms).filter f).length + pot (run env c ms).1 ≤
      pot c + (((run env c ms).2.zip ms).filter g).length := by
  induction ms generalizing c with
  | nil => simp [run_nil]
  | cons x ms ih =>
    obtain ⟨now, m⟩ := x
    rw [run_filter_cons, run_filter_cons, run_cons]
    -- head flag + (tail count + potential at the end): the tail by induction, then the head by `hstep`
    calc _ + _ + pot (run env (deliver env c now m).1 ms).1
        = _ + (_ + pot (run env (deliver env c now m).1 ms).1) := Nat.add_assoc ..
      _ ≤ _ + (pot (deliver env c now m).1 + _) := Nat.add_le_add_left (ih (deliver env c now m).1) _
      _ = _ + pot (deliver env c now m).1 + _ := (Nat.add_assoc ..).symm
      _ ≤ pot c + _ + _ := Nat.add_le_add_right (hstep c now m) _
      _ = pot c + (_ + _) := Nat.add_assoc ..

end TM.Xibc
